/- Every module of the library: the property files no other module imports, which reach all the
rest.  `lake build` therefore checks the whole development. -/
import Datacake.Props.C01b
import Datacake.Props.C01f
import Datacake.Props.C01g
import Datacake.Props.C03
import Datacake.Props.C03b
import Datacake.Props.C04
import Datacake.Props.C05c
import Datacake.Props.C06c
import Datacake.Props.C06d
import Datacake.Props.C07
import Datacake.Props.C08
import Datacake.Props.C08c
import Datacake.Props.C10
import Datacake.Props.C11
import Datacake.Props.C13
import Datacake.Props.C13d
import Datacake.Props.C14
import Datacake.Props.C15b
import Datacake.Props.C15c
import Datacake.Props.C16b
import Datacake.Props.C17b
import Datacake.Props.C18
import Datacake.Props.C19b
