/-
C18 with several keyspace names in use at once (`Group.stepN`: the map the group really holds,
name ↦ actor): the first uses of OTHER fresh keyspaces going on at the same time are part of "every
schedule" too - they share the map and the write lock.  `Props/C18.lean` is the case of every task on
name 0.
-/
import Datacake.Model.Group

namespace Datacake.C18b
open Datacake.Group

@[local simp] theorem upd_self {α : Type} (f : Nat → α) (k : Nat) (v : α) : upd f k v k = v := if_pos rfl

theorem upd_of_ne {α : Type} (f : Nat → α) {k x : Nat} (v : α) (h : x ≠ k) : upd f k v x = f x := if_neg h

theorem upd_of_none {α : Type} {f : Nat → Option α} {k x : Nat} {a : α} {v : Option α} (hk : f k = none)
    (hx : f x = some a) : upd f k v x = some a :=
  (upd_of_ne f v fun e => by rw [e, hk] at hx; cases hx).trans hx

theorem mem_upd_cons {f : Nat → List Nat} {a x : Nat} (t k : Nat) (h : x ∈ f a) : x ∈ upd f k (t :: f k) a := by
  unfold upd
  split
  · exact List.mem_cons_of_mem _ (‹a = k› ▸ h)
  · exact h

/-- What holds of every task `t` at all times: from `pc` 3 on it holds a mailbox; the mailbox it
holds is the one registered under its name; once its send completed, its mutation is in that
actor's set. -/
def Ok (name : Nat → Nat) (g : GN) (t : Nat) : Prop :=
  (3 ≤ g.pc t → g.held t ≠ none) ∧
  ∀ a, g.held t = some a → g.map (name t) = some a ∧ (g.pc t = 4 → t ∈ g.sets a)

theorem ok_step_self (name : Nat → Nat) (g : GN) (t : Nat) (h : Ok name g t) : Ok name (stepN name g t) t := by
  unfold stepN
  split <;> unfold Ok at *
  · cases hm : g.map (name t) <;> simp_all
  · simp_all
  · cases hm : g.map (name t) <;> simp_all
  · cases hh : g.held t <;> simp_all [upd]
  · exact h

/-- Every other task: its `pc` and `held` stay; the map only gains an entry where it had none (the
insert re-checks under the write lock), the sets only grow. -/
theorem ok_step_other (name : Nat → Nat) (g : GN) (t t' : Nat) (e : t' ≠ t) (h : Ok name g t') :
    Ok name (stepN name g t) t' := by
  unfold stepN
  split <;> unfold Ok at *
  · cases hm : g.map (name t) <;> simp only [upd_of_ne _ _ e] <;> exact h
  · simp only [upd_of_ne _ _ e]; exact h
  · cases hm : g.map (name t) <;> simp only [upd_of_ne _ _ e]
    · exact ⟨h.1, fun a ha => ⟨upd_of_none hm (h.2 a ha).1, (h.2 a ha).2⟩⟩
    · exact h
  · cases hh : g.held t <;> simp only [upd_of_ne _ _ e]
    · exact h
    · exact ⟨h.1, fun a ha => ⟨(h.2 a ha).1, fun hp => mem_upd_cons t _ ((h.2 a ha).2 hp)⟩⟩
  · exact h

theorem ok_runN (name : Nat → Nat) (schedule : List Nat) (t : Nat) : Ok name (runN name schedule) t := by
  refine List.foldlRecOn (motive := fun g => ∀ t, Ok name g t) schedule (stepN name) ?_ ?_ t
  · exact fun t => ⟨nofun, nofun⟩
  · intro g hg t _ t'
    by_cases e : t' = t
    · exact e ▸ ok_step_self name g t (hg t)
    · exact ok_step_other name g t t' e (hg t')

/-- **one_state_each**: any number of tasks, any assignment of keyspace names to them, any schedule:
(1) whatever mailbox a task obtained is the one registered under its keyspace's name, (2) two tasks
of one name never hold different instances, (3) every mutation whose send completed is in the set
peers obtain for that name. -/
theorem one_state_each (name : Nat → Nat) (schedule : List Nat) :
    let g := runN name schedule
    (∀ t a, g.held t = some a → g.map (name t) = some a) ∧
    (∀ t t' a a', name t = name t' → g.held t = some a → g.held t' = some a' → a = a') ∧
    (∀ t, g.pc t = 4 → t ∈ visibleN g (name t)) := by
  intro g
  have h := ok_runN name schedule
  refine ⟨fun t a ht => ((h t).2 a ht).1, ?_, ?_⟩
  · intro t t' a a' hn ht ht'
    exact Option.some.inj (((h t).2 a ht).1.symm.trans (hn ▸ ((h t').2 a' ht').1))
  · intro t hp
    cases ht : g.held t with
    | none => exact absurd ht ((h t).1 (hp ▸ by decide))
    | some a =>
      obtain ⟨hm, hs⟩ := (h t).2 a ht
      unfold visibleN; rw [hm]; exact hs hp

/-- Witness for the seeded change C18-rBm1: task 0 first uses keyspace 0, task 1 keyspace 1; both miss
(holding the same empty snapshot), both spawn; 0 publishes {0 ↦ a0}, 1 publishes {1 ↦ a1} built from
ITS snapshot - the registration of keyspace 0 is gone; task 0's acknowledged write went to an actor
no lookup finds any more.  The current tree, same schedule: both registered, both writes visible. -/
theorem cow_loses_other_keyspace :
    let name : Nat → Nat := fun t => t
    let sched := [0, 1, 0, 1, 0, 1, 0, 1]
    (runCow name sched).pc 0 = 4 ∧ (runCow name sched).map 0 = none ∧ visibleN (runCow name sched) 0 = [] ∧
    visibleN (runN name sched) 0 = [0] ∧ visibleN (runN name sched) 1 = [1] := by decide

example :
    let name : Nat → Nat := fun t => t % 2
    let g := runN name [0, 1, 2, 0, 1, 2, 0, 1, 2, 0, 1, 2]
    g.pc 0 = 4 ∧ g.pc 1 = 4 ∧ g.pc 2 = 4 ∧ visibleN g 0 = [2, 0] ∧ visibleN g 1 = [1] := by decide

end Datacake.C18b
