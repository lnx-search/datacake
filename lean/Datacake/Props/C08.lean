/-
C08 — Purging tombstones is invisible and deletes stay deleted.

Model: `OrSwot.purgeOldDeletes`, `isBefore`, acceptance rule in `Model/Orswot.lean`.
-/
import Datacake.Lemmas.Orswot
import Datacake.Lemmas.OrswotVersions

namespace Datacake.C08
open Datacake.Lww Datacake.OrSwot Datacake.Ts Datacake.Map

/-- **purge_local**: purging changes no live entry, no version information, and the
returned pairs are exactly the tombstones that were older than the safe cut-off of their origin;
what remains are exactly the other tombstones. -/
theorem purge_local (s : OrSwot) :
    (purgeOldDeletes s).1.entries = s.entries ∧
    (purgeOldDeletes s).1.safe = s.safe ∧ (purgeOldDeletes s).1.maxs = s.maxs ∧
    (∀ k d, (k, d) ∈ (purgeOldDeletes s).2 ↔ Map.get s.dead k = some d ∧ isBefore s.safe d = true) ∧
    (∀ k d, Map.get (purgeOldDeletes s).1.dead k = some d ↔
        Map.get s.dead k = some d ∧ isBefore s.safe d = false) :=
  ⟨rfl, rfl, rfl, mem_purged s, purge_dead_iff s⟩

/-- Purging never changes which ids are live. -/
theorem purge_keeps_live (s : OrSwot) (k : Nat) :
    OrSwot.get (purgeOldDeletes s).1 k = OrSwot.get s k := rfl

/-- No cut-off of `s'` lies below that of `s`: what `s` refuses as too old, `s'` refuses. -/
def SafeLe (s s' : OrSwot) : Prop :=
  ∀ t, isBefore s.safe t = true → isBefore s'.safe t = true

/-- **purged_stays_refused**: after a purge, any operation from the deleting node that is not newer
than the purged delete is refused — by `will_apply`, `insert` and `delete` — in the purging state and
in every later state whose cut-offs have not gone backwards (`SafeLe`: a hypothesis here; that the
operations keep it is not proved in this development). -/
theorem purged_stays_refused (F : Nat) (s s' : OrSwot) (k d : Nat)
    (hp : (k, d) ∈ (purgeOldDeletes s).2) (hmono : SafeLe (purgeOldDeletes s).1 s')
    (k' t src : Nat) (hn : node t = node d) (ht : t ≤ d) :
    willApply s' k' t = false ∧
    (insertWithSource F s' src k' t) = (s', false) ∧
    (deleteWithSource F s' src k' t) = (s', false) := by
  obtain ⟨v, hg, hlt⟩ := isBefore_iff.1 ((mem_purged s k d).1 hp).2
  have hbt : isBefore s.safe t = true := isBefore_iff.2 ⟨v, hn ▸ hg, Nat.lt_of_le_of_lt ht hlt⟩
  have hbs' : isBefore s'.safe t = true := hmono t hbt
  refine ⟨by simp [willApply, hbs'], ?_, ?_⟩
  · unfold insertWithSource tryUpdateMax; simp [hbs']
  · unfold deleteWithSource tryUpdateMax; simp [hbs']

end Datacake.C08
