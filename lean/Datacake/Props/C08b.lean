/-
C08, cluster part — a cluster that purges at arbitrary moments shows exactly the live documents of
one that never purges, whenever every operation reaches every replica in time.

Timed model.  Events carry a global time `τ` (ms, the same unit as `dts`), non-decreasing along a
run.  `D` bounds the delivery delay, `σ` the clock skew, and `D + σ ≤ F` (the property's "delay +
skew < forgiveness period").  An event is

  * `apply j src o`      — node `j` receives operation `o` on source `src`: a client write, a direct
                           replication message, a duplicate, an item of a batch.  Admissible at time
                           `τ` when `o` is an operation of the history, not from the future beyond
                           the skew (`dts o.ts ≤ τ + σ`) and not later than the delay bound
                           (`τ < dts o.ts + D`);
  * `exchange j i order` — node `j` applies items of the difference it computed against the
                           *current, possibly purged* state of node `i`, in any order;
  * `purge j`            — node `j` purges (`purge_old_deletes`).

Timeliness (`AllDelivered`): at every event, every operation whose stamp is at least `D` old has
been applied at every node of the cluster ("every operation reaches every replica within the delay
bound").
-/
import Datacake.Lemmas.PurgeSim
import Datacake.Lemmas.Exchange

namespace Datacake.C08b
open Datacake.Lww Datacake.OrSwot Datacake.Ts Datacake.Map Datacake.Purge

structure Replica where
  s : OrSwot
  A : List Op

abbrev Cl := Nat → Replica

inductive Ev where
  | apply (j src : Nat) (o : Op)
  | exchange (j i : Nat) (order : List SrcOp)
  | purge (j : Nat)

def upd (c : Cl) (j : Nat) (r : Replica) : Cl := fun x => if x = j then r else c x

/-- A node's `A` lists what it has applied, newest first (so an exchange prepends its items
reversed). -/
def step (F : Nat) (c : Cl) : Ev → Cl
  | .apply j src o => upd c j ⟨(applyOp F (c j).s ⟨src, o⟩).1, o :: (c j).A⟩
  | .exchange j _ order => upd c j ⟨applyAll F (c j).s order, (order.map (·.op)).reverse ++ (c j).A⟩
  | .purge j => upd c j ⟨(purgeOldDeletes (c j).s).1, (c j).A⟩

def run (F : Nat) (c : Cl) (evs : List (Nat × Ev)) : Cl := evs.foldl (fun c e => step F c e.2) c

/-- `n` is the number of nodes (not of sources). -/
structure Params where
  F : Nat
  D : Nat
  σ : Nat
  n : Nat
  hF : F % 4 = 0
  hDS : D + σ ≤ F

/-- Every operation at least `D` old has been applied at every node. -/
def AllDelivered (P : Params) (H : List Op) (c : Cl) (τ : Nat) : Prop :=
  ∀ x < P.n, ∀ o ∈ H, dts o.ts + P.D ≤ τ → o ∈ (c x).A

def ValidEv (P : Params) (H : List Op) (c : Cl) (τ : Nat) : Ev → Prop
  | .apply j _ o => j < P.n ∧ o ∈ H ∧ dts o.ts ≤ τ + P.σ ∧ τ < dts o.ts + P.D
  | .exchange j i order => j < P.n ∧ i < P.n ∧ ∀ so ∈ order, so.op ∈ diffOps (c j).s (c i).s
  | .purge j => j < P.n

/-- `t0` is the time of the previous event (times do not decrease). -/
def ValidRun (P : Params) (H : List Op) : Cl → Nat → List (Nat × Ev) → Prop
  | _, _, [] => True
  | c, t0, (τ, e) :: rest =>
    t0 ≤ τ ∧ AllDelivered P H c τ ∧ ValidEv P H c τ e ∧ ValidRun P H (step P.F c e) τ rest

/-- Every node satisfies `NInv` with the bound `τ + σ`: no node has applied a stamp further ahead of
the time `τ` than the skew allows. -/
def CInv (P : Params) (H : List Op) (c : Cl) (τ : Nat) : Prop :=
  ∀ x < P.n, NInv P.F (τ + P.σ) H (c x).s (c x).A

/-- With `D + σ ≤ F`: what is old enough to be purged (`a + F ≤ τ + σ`) is past the delay bound. -/
theorem purgeable_delivered {a F D σ τ : Nat} (h : a + F ≤ τ + σ) (hDS : D + σ ≤ F) : a + D ≤ τ := by
  omega

theorem ninv_applyAll (F B : Nat) (hF : F % 4 = 0) (H : List Op) (hg : GoodHist H)
    (order : List SrcOp) (s : OrSwot) (A : List Op) (h : NInv F B H s A) (ht : Timely F B H A)
    (hall : ∀ so ∈ order, so.op ∈ H ∧ dts so.op.ts ≤ B ∧ Fresh F B H so.op) :
    NInv F B H (applyAll F s order) ((order.map (·.op)).reverse ++ A) := by
  rw [← List.foldl_flip_cons_eq_append]
  exact (List.foldl_rel (r := fun s A => NInv F B H s A ∧ Timely F B H A)
    (f := fun s o => (applyOp F s o).1) ⟨h, ht⟩ fun so hso s A ⟨h, ht⟩ =>
    have ⟨h1, h2, h3⟩ := hall so hso
    ⟨ninv_apply F B hF H hg s A h ht so.src so.op h1 h2 h3,
     fun o ho hle => List.mem_cons_of_mem _ (ht o ho hle)⟩).1

theorem item_of_peer (F B : Nat) (H : List Op) (a : OrSwot) (ri : Replica)
    (hi : NInv F B H ri.s ri.A) (o : Op) (ho : o ∈ diffOps a ri.s) :
    o ∈ ri.A ∧ lww ri.A o.key = some (rank o) := by
  obtain ⟨⟨g, hr, hs⟩, _⟩ := hi
  have hg := hs.hasRec (mem_diffOps.1 ho).1
  exact ⟨op_of_rec hr _ hg,
    (hr.view _).symm.trans ((hasRec_iff_view hr.disj).1 hg)⟩

theorem cinv_step (P : Params) (H : List Op) (hg : GoodHist H) (c : Cl) (t0 τ : Nat) (e : Ev)
    (hI : CInv P H c t0) (ht : t0 ≤ τ) (hdel : AllDelivered P H c τ) (hv : ValidEv P H c τ e) :
    CInv P H (step P.F c e) τ := by
  have hmono : ∀ x < P.n, NInv P.F (τ + P.σ) H (c x).s (c x).A :=
    fun x hx => ninv_mono P.F (t0 + P.σ) (τ + P.σ) H _ _ (hI x hx) (Nat.add_le_add_right ht _)
  have hDS := P.hDS
  have htimely : ∀ x < P.n, Timely P.F (τ + P.σ) H (c x).A :=
    fun x hx o ho hle => hdel x hx o ho (purgeable_delivered hle hDS)
  -- only node `j` changes
  have hupd : ∀ j r, NInv P.F (τ + P.σ) H r.s r.A → CInv P H (upd c j r) τ := by
    intro j r hr x hx
    unfold upd
    split
    · exact hr
    · exact hmono x hx
  cases e with
  | apply j src o =>
    obtain ⟨hj, hoH, hfut, hlate⟩ := hv
    refine hupd j _ (ninv_apply P.F (τ + P.σ) P.hF H hg _ _ (hmono j hj)
      (htimely j hj) src o hoH hfut fun od hod _ _ hold => ?_)
    -- a delete old enough to have been purged is past the delay bound, `o` is not
    exact Nat.le_of_lt (lt_of_time _ _ (hg.valid o hoH).2 (.inl (Nat.lt_of_add_lt_add_right
      (Nat.lt_of_le_of_lt (purgeable_delivered hold hDS) hlate))))
  | exchange j i order =>
    obtain ⟨hj, hi, hitems⟩ := hv
    refine hupd j _ (ninv_applyAll P.F (τ + P.σ) P.hF H hg order _ _ (hmono j hj)
      (htimely j hj) fun so hso => ?_)
    obtain ⟨hmemA, hmax⟩ := item_of_peer P.F (τ + P.σ) H (c j).s (c i) (hmono i hi) so.op (hitems so hso)
    have hsub := (hmono i hi).sub _ hmemA
    refine ⟨hsub.1, hsub.2, fun od hod hk _ hold => ?_⟩
    -- such a delete has reached the peer, whose newest record of the key is the item
    have hrank : rank od ≤ rank so.op := (atLeast_some _ _).1 (hmax ▸ lww_ge (c i).A so.op.key od
      (hdel i hi od hod (purgeable_delivered hold hDS)) hk)
    exact ts_le_of_le_rank (Nat.le_trans (deadRec_le_rank od) hrank)
  | purge j => exact hupd j _ (ninv_purge P.F (τ + P.σ) P.hF H hg _ _ (hmono j hv))

theorem cinv_run (P : Params) (H : List Op) (hg : GoodHist H) (evs : List (Nat × Ev)) (c : Cl) (t0 : Nat)
    (hI : CInv P H c t0) (hv : ValidRun P H c t0 evs) : ∃ τ, CInv P H (run P.F c evs) τ := by
  induction evs generalizing c t0 with
  | nil => exact ⟨t0, hI⟩
  | cons e rest ih =>
    obtain ⟨ht, hdel, hev, hrest⟩ := hv
    exact ih (step P.F c e.2) e.1 (cinv_step P H hg c t0 e.1 e.2 hI ht hdel hev) hrest

/-- **live_is_lww_of_applied**: at the end of every timely run (and so at every moment of one: a
prefix of a valid run is a valid run), whatever has been purged where and when, the live documents
of every node are exactly the last-writer-wins live documents of the operations it has applied: no
deleted document reappears, no live document is lost. -/
theorem live_is_lww_of_applied (P : Params) (H : List Op) (hg : GoodHist H) (c0 : Cl) (t0 : Nat)
    (h0 : CInv P H c0 t0) (evs : List (Nat × Ev)) (hv : ValidRun P H c0 t0 evs)
    (x : Nat) (hx : x < P.n) (k : Nat) :
    OrSwot.get (run P.F c0 evs x).s k = liveOf (lww (run P.F c0 evs x).A k) := by
  obtain ⟨τ, hI⟩ := cinv_run P H hg evs c0 t0 h0 hv
  obtain ⟨⟨g, hr, hs⟩, _⟩ := hI x hx
  rw [← hr.view, ← get_eq_liveOf_view]
  exact (hs.entries k).symm

/-- **timely_purge_invisible**: once every operation has reached every node, every node shows
exactly the live documents of the whole history — the greatest-stamp operation per id, present if
it is a put and absent if it is a delete — however the run was interleaved with purges. -/
theorem timely_purge_invisible (P : Params) (H : List Op) (hg : GoodHist H) (c0 : Cl) (t0 : Nat)
    (h0 : CInv P H c0 t0) (evs : List (Nat × Ev)) (hv : ValidRun P H c0 t0 evs)
    (hall : ∀ x < P.n, ∀ o ∈ H, o ∈ (run P.F c0 evs x).A)
    (x : Nat) (hx : x < P.n) (k : Nat) :
    OrSwot.get (run P.F c0 evs x).s k = liveOf (lww H k) := by
  obtain ⟨τ, hI⟩ := cinv_run P H hg evs c0 t0 h0 hv
  rw [live_is_lww_of_applied P H hg c0 t0 h0 evs hv x hx k]
  congr 1
  exact lww_ext (fun o => ⟨fun ho => ((hI x hx).sub o ho).1, hall x hx o⟩) k

/-- **purging_equals_never_purging**: any two timely runs over the same history — in particular
one purging at arbitrary moments on arbitrary nodes and one that never purges — end with the same
live documents on every node. -/
theorem purging_equals_never_purging (P : Params) (H : List Op) (hg : GoodHist H) (c0 : Cl) (t0 : Nat)
    (h0 : CInv P H c0 t0) (evs evs' : List (Nat × Ev))
    (hv : ValidRun P H c0 t0 evs) (hv' : ValidRun P H c0 t0 evs')
    (hall : ∀ x < P.n, ∀ o ∈ H, o ∈ (run P.F c0 evs x).A)
    (hall' : ∀ x < P.n, ∀ o ∈ H, o ∈ (run P.F c0 evs' x).A)
    (x y : Nat) (hx : x < P.n) (hy : y < P.n) (k : Nat) :
    OrSwot.get (run P.F c0 evs x).s k = OrSwot.get (run P.F c0 evs' y).s k := by
  rw [timely_purge_invisible P H hg c0 t0 h0 evs hv hall x hx k,
      timely_purge_invisible P H hg c0 t0 h0 evs' hv' hall' y hy k]

/-- The empty cluster satisfies the invariant at any time. -/
theorem cinv_empty (P : Params) (H : List Op) (nsrc t0 : Nat) :
    CInv P H (fun _ => ⟨OrSwot.empty nsrc, []⟩) t0 :=
  fun _ _ => ninv_empty P.F (t0 + P.σ) nsrc H


/-! ### Witness: the hypotheses are satisfiable by a run in which a purge really removes a tombstone

Two nodes, two sources, forgiveness one hour, delay and skew bounds 1000 s each.  Node-1 origin
issues put k1, delete k1 (4 ms later) and, 3700 s later, put k2; every operation is delivered to
both nodes in time, the last one on both sources.  Node 0 then purges — the tombstone of k1 is
really removed — and afterwards exchanges with node 1, which still holds that tombstone (the
difference is empty: the tombstone is before node 0's cut-off, so node 0 does not lack it).  `CInv`
of the start is `cinv_empty`. -/
namespace Witness

def P : Params := ⟨3600000, 1000000, 1000000, 2, by decide, by decide⟩
def o1 : Op := ⟨1, pack 10000000 0 1, false⟩
def o2 : Op := ⟨1, pack 10000004 0 1, true⟩
def o3 : Op := ⟨2, pack 13700000 0 1, false⟩
def H : List Op := [o1, o2, o3]
def c0 : Cl := fun _ => ⟨OrSwot.empty 2, []⟩
def evs : List (Nat × Ev) :=
  [(10000000, .apply 0 0 o1), (10000000, .apply 1 0 o1), (10000004, .apply 0 0 o2), (10000004, .apply 1 0 o2),
   (13700000, .apply 0 0 o3), (13700000, .apply 0 1 o3), (13700000, .apply 1 0 o3), (13700000, .apply 1 1 o3),
   (13700010, .purge 0), (13700020, .exchange 0 1 []), (13700030, .exchange 1 0 [])]

instance (P : Params) (H : List Op) (c : Cl) (τ : Nat) : Decidable (AllDelivered P H c τ) := by
  unfold AllDelivered; infer_instance

instance (P : Params) (H : List Op) (c : Cl) (τ : Nat) (e : Ev) : Decidable (ValidEv P H c τ e) := by
  cases e <;> unfold ValidEv <;> infer_instance

instance decValidRun (P : Params) (H : List Op) : ∀ c t0 evs, Decidable (ValidRun P H c t0 evs)
  | _, _, [] => isTrue trivial
  | c, _, (τ, e) :: rest => by
    have := decValidRun P H (step P.F c e) τ rest
    unfold ValidRun; infer_instance

example : Map.get (run P.F c0 (evs.take 8) 0).s.dead 1 = some (pack 10000004 0 1) ∧
    Map.get (run P.F c0 evs 0).s.dead 1 = none ∧
    Map.get (run P.F c0 evs 1).s.dead 1 = some (pack 10000004 0 1) := by decide

example : ValidRun P H c0 0 evs ∧ (∀ x < P.n, ∀ o ∈ H, o ∈ (run P.F c0 evs x).A) := by
  decide

example : GoodHist H := ⟨by unfold ValidStamp; decide⟩

/-- Why timeliness is a hypothesis: the same shape with the put issued by ANOTHER origin (2) and
re-delivered to node 0 after the purge, 3700 s late (`τ < dts o.ts + D` violated): the put is
accepted again — origin 2 has been silent, so its cut-off is still low — and the deleted document
is live again on node 0, while the last-writer-wins record of the history is the tombstone. -/
def p1 : Op := ⟨1, pack 10000000 0 2, false⟩
def lateRun : List (Nat × Ev) :=
  [(10000000, .apply 0 0 p1), (10000004, .apply 0 0 o2), (13700000, .apply 0 0 o3), (13700000, .apply 0 1 o3),
   (13700010, .purge 0), (13700020, .apply 0 0 p1)]

example : OrSwot.get (run P.F c0 (lateRun.take 5) 0).s 1 = none ∧
    OrSwot.get (run P.F c0 lateRun 0).s 1 = some (pack 10000000 0 2) ∧
    liveOf (lww [p1, o2, o3] 1) = none ∧
    ¬ ValidRun P [p1, o2, o3] c0 0 lateRun := by
  decide

end Witness

end Datacake.C08b
