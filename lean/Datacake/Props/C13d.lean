/-
C13 at the wire: the registry theorems (Props/C13b) composed with the exchange theorems (Props/C12b)
through the numbering of paths (`C13c.pathKey`: the handler key IS the request path).  The server's
handler table is the registry the history produced; a request names its service and message by the PATH
it carries.  A path with no registration since the last removal of its service name is answered
`ServiceUnavailable` and no handler ran; otherwise the request goes to the instance of the most recent
such registration; removing a service refuses every path of it and changes the answer for no other.
-/
import Datacake.Props.C12b
import Datacake.Props.C13b
import Datacake.Props.C13c

namespace Datacake.C13d
open Datacake.Rpc Datacake.Exchange Datacake.C12b Datacake.C13b Datacake.C13c

/-- The handler table a server with registry `reg` serves from: the path is the key (D26); `H inst`
is what the registered instance `inst` does with a message body. -/
def tableOf (reg : Registry) (H : Nat → Handler) : List Nat → Option Handler :=
  fun path => (getHandler reg (pathKey path)).map H

theorem tableOf_run (owner : Nat → Nat) (evs : List Ev) (hw : ∀ e ∈ evs, WellOwned owner e)
    (H : Nat → Handler) (path : List Nat) :
    tableOf (run evs) H path = (served owner evs (pathKey path)).map H := by
  unfold tableOf
  rw [served_iff_registered_general owner evs hw]

theorem wire_unknown_refused (owner : Nat → Nat) (evs : List Ev) (hw : ∀ e ∈ evs, WellOwned owner e)
    (H : Nat → Handler) (path : List Nat) (rf ra : Nat) (frame : List Nat) (reqCuts respCuts : List Nat)
    (hnone : served owner evs (pathKey path) = none) (hp : path.length + 24 ≤ 2147483648) :
    exchange (tableOf (run evs) H) path rf ra frame reqCuts respCuts
      = (.status SERVICE_UNAVAILABLE (unknownPrefix ++ path), []) :=
  exchange_unknown _ path rf ra frame reqCuts respCuts
    (by rw [tableOf_run owner evs hw, hnone]; rfl) hp

theorem wire_registered_served (owner : Nat → Nat) (evs : List Ev) (hw : ∀ e ∈ evs, WellOwned owner e)
    (H : Nat → Handler) (path : List Nat) (inst : Nat) (rf ra : Nat) (b r : List Nat) (reqCuts respCuts : List Nat)
    (hsome : served owner evs (pathKey path) = some inst)
    (hb : (H inst).fixed ≤ b.length) (hba : (b.length - (H inst).fixed) % (H inst).align = 0)
    (hrun : (H inst).run b = .ok r) (hr : rf ≤ r.length) (hra : (r.length - rf) % ra = 0) :
    exchange (tableOf (run evs) H) path rf ra (mkFrame b) reqCuts respCuts = (.reply r, [b]) :=
  exchange_reply _ path (H inst) rf ra b r reqCuts respCuts
    (by rw [tableOf_run owner evs hw, hsome]; rfl) hb hba hrun hr hra

theorem wire_registered_error (owner : Nat → Nat) (evs : List Ev) (hw : ∀ e ∈ evs, WellOwned owner e)
    (H : Nat → Handler) (path : List Nat) (inst : Nat) (rf ra : Nat) (b : List Nat) (c : Nat) (m : List Nat)
    (reqCuts respCuts : List Nat)
    (hsome : served owner evs (pathKey path) = some inst)
    (hb : (H inst).fixed ≤ b.length) (hba : (b.length - (H inst).fixed) % (H inst).align = 0)
    (hrun : (H inst).run b = .error (c, m)) (hs : StatusOk c m) :
    exchange (tableOf (run evs) H) path rf ra (mkFrame b) reqCuts respCuts = (.status c m, [b]) :=
  exchange_error _ path (H inst) rf ra b c m reqCuts respCuts
    (by rw [tableOf_run owner evs hw, hsome]; rfl) hb hba hrun hs

theorem wellOwned_snoc (owner : Nat → Nat) (evs : List Ev) (hw : ∀ e ∈ evs, WellOwned owner e) (n : Nat) :
    ∀ e ∈ evs ++ [Ev.remove n], WellOwned owner e :=
  List.forall_mem_append.2 ⟨hw, List.forall_mem_singleton.2 trivial⟩

/-- **wire_remove_then_refused**: after `remove_service` every path of that service is refused at the
wire, whatever was registered under the name before (several types, several times). -/
theorem wire_remove_then_refused (owner : Nat → Nat) (evs : List Ev) (hw : ∀ e ∈ evs, WellOwned owner e)
    (H : Nat → Handler) (n : Nat) (path : List Nat) (rf ra : Nat) (frame : List Nat) (reqCuts respCuts : List Nat)
    (hown : owner (pathKey path) = n) (hp : path.length + 24 ≤ 2147483648) :
    exchange (tableOf (run (evs ++ [Ev.remove n])) H) path rf ra frame reqCuts respCuts
      = (.status SERVICE_UNAVAILABLE (unknownPrefix ++ path), []) := by
  apply exchange_unknown _ path rf ra frame reqCuts respCuts _ hp
  unfold tableOf
  rw [remove_leaves_nothing_behind_general owner evs hw n _ hown]; rfl

/-- **wire_remove_keeps_others**: the answer to every request for a path of ANOTHER service is what it was. -/
theorem wire_remove_keeps_others (owner : Nat → Nat) (evs : List Ev) (hw : ∀ e ∈ evs, WellOwned owner e)
    (H : Nat → Handler) (n : Nat) (path : List Nat) (rf ra : Nat) (frame : List Nat) (reqCuts respCuts : List Nat)
    (hown : owner (pathKey path) ≠ n) :
    exchange (tableOf (run (evs ++ [Ev.remove n])) H) path rf ra frame reqCuts respCuts
      = exchange (tableOf (run evs) H) path rf ra frame reqCuts respCuts := by
  have : tableOf (run (evs ++ [Ev.remove n])) H path = tableOf (run evs) H path := by
    unfold tableOf
    rw [remove_does_not_disable_others_general owner evs hw n _ hown]
  unfold exchange server
  rw [this]

/-- two services: name 3 owns the path `[47, 97]` ("/a"), name 4 owns `[47, 98]` ("/b") -/
def exOwner (k : Nat) : Nat := if k = pathKey [47, 97] then 3 else 4
def exEvs : List Ev := [Ev.add 3 [pathKey [47, 97]] 100, Ev.add 4 [pathKey [47, 98]] 200]
def exH (inst : Nat) : Handler := ⟨4, 4, fun b => .ok (b ++ [inst % 256, 0, 0, 0])⟩

example : (∀ e ∈ exEvs, WellOwned exOwner e) ∧ served exOwner exEvs (pathKey [47, 97]) = some 100
    ∧ served exOwner (exEvs ++ [Ev.remove 3]) (pathKey [47, 97]) = none
    ∧ served exOwner (exEvs ++ [Ev.remove 3]) (pathKey [47, 98]) = some 200 := by
  refine ⟨List.forall_mem_cons.2 ⟨?_, List.forall_mem_singleton.2 ?_⟩, by decide, by decide, by decide⟩ <;>
    exact List.forall_mem_singleton.2 (by decide)

end Datacake.C13d
