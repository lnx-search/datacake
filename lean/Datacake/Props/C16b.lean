/-
C16 (consumer side) — the components of the store that subscribe to membership changes hold the
live membership.

Model: `Model/Replication.lean` (the task distributor and the anti-entropy poller with their FIFO
queues, the store's forwarding task reading the node's `MembershipChanges` stream).  The property
speaks of "a component that subscribes to membership changes at any moment and applies each change
it is handed in order": these two services ARE those components.
-/
import Datacake.Props.C16
import Datacake.Model.Replication

namespace Datacake.C16b
open Datacake.Membership Datacake.Replication Datacake.C16

def changesOf {α : Type} (q : List (Op α)) : List Delta :=
  q.filterMap (fun op => match op with | .change d => some d | .mutation _ => none)

def putsFor {α : Type} (ks : String) (q : List (Op α)) : List α :=
  q.flatMap (fun op => match op with
    | .mutation (.put k d) => if k = ks then [d] else []
    | .mutation (.multiPut k ds) => if k = ks then ds else []
    | _ => [])

def delsFor {α : Type} (ks : String) (q : List (Op α)) : List α :=
  q.flatMap (fun op => match op with
    | .mutation (.del k d) => if k = ks then [d] else []
    | .mutation (.multiDel k ds) => if k = ks then ds else []
    | _ => [])

def hasMutation {α : Type} (q : List (Op α)) : Bool :=
  q.any (fun op => match op with | .mutation _ => true | .change _ => false)

/-- The membership the distributor WILL hold once it has drained its queue. -/
def drainedD {α : Type} (d : Dist α) : List Member := (changesOf d.queue).foldl applyDelta d.live

def drainedP (p : Poller) : List Member := p.queue.foldl applyDelta p.live

theorem lookup_extend {α : Type} (m : List (String × List α)) (k ks : String) (docs : List α) :
    lookup (extend m k docs) ks =
      if k = ks then some ((lookup m k).getD [] ++ docs) else lookup m ks := by
  induction m with
  | nil => rfl
  | cons x rest ih => grind [extend, lookup]

theorem getD_lookup_extend {α : Type} (m : List (String × List α)) (k ks : String) (docs : List α) :
    (lookup (extend m k docs) ks).getD [] = (lookup m ks).getD [] ++ if k = ks then docs else [] := by
  rw [lookup_extend]
  split
  next h => subst h; rfl
  next => exact (List.append_nil _).symm

theorem extend_ne_nil {α : Type} (m : List (String × List α)) (ks : String) (docs : List α) :
    (extend m ks docs).isEmpty = false := by
  cases m with
  | nil => rfl
  | cons x rest => obtain ⟨k, v⟩ := x; simp only [extend]; split <;> rfl

theorem drain_live {α : Type} (q : List (Op α)) {a : Acc α} :
    (q.foldl drainStep a).live = (changesOf q).foldl applyDelta a.live := by
  induction q generalizing a with
  | nil => rfl
  | cons op rest ih =>
    rw [List.foldl_cons, ih]
    cases op with
    | change d => rfl
    | mutation m => cases m <;> rfl

theorem drain_puts {α : Type} (q : List (Op α)) (a : Acc α) (ks : String) :
    (lookup (q.foldl drainStep a).puts ks).getD [] = (lookup a.puts ks).getD [] ++ putsFor ks q :=
  foldl_appends drainStep (fun a => (lookup a.puts ks).getD []) _ q a fun a op => by
    cases op with
    | change d => exact (List.append_nil _).symm
    | mutation m =>
      cases m with
      | put | multiPut => exact getD_lookup_extend ..
      | del | multiDel => exact (List.append_nil _).symm

theorem drain_dels {α : Type} (q : List (Op α)) (a : Acc α) (ks : String) :
    (lookup (q.foldl drainStep a).dels ks).getD [] = (lookup a.dels ks).getD [] ++ delsFor ks q :=
  foldl_appends drainStep (fun a => (lookup a.dels ks).getD []) _ q a fun a op => by
    cases op with
    | change d => exact (List.append_nil _).symm
    | mutation m =>
      cases m with
      | put | multiPut => exact (List.append_nil _).symm
      | del | multiDel => exact getD_lookup_extend ..

theorem drain_nonempty {α : Type} (q : List (Op α)) (a : Acc α) :
    ((q.foldl drainStep a).puts.isEmpty && (q.foldl drainStep a).dels.isEmpty) =
      ((a.puts.isEmpty && a.dels.isEmpty) && !hasMutation q) := by
  induction q generalizing a with
  | nil => exact (Bool.and_true _).symm
  | cons op rest ih =>
    rw [List.foldl_cons, ih]
    cases op with
    | change d => rfl
    | mutation m => cases m <;> simp [drainStep, register, hasMutation, extend_ne_nil]

/-- **tick_spec**: one tick of the distributor empties the queue, leaves `live_members` = the old
map with all queued changes applied in order, and sends a batch exactly when a mutation was
queued — to exactly the members live after the drain (also those whose `joined` was queued BEHIND
the mutation, and not those whose `left` was), carrying per keyspace exactly the queued documents
in order. -/
theorem tick_spec {α : Type} (d : Dist α) :
    (d.tick).1.queue = [] ∧
    (d.tick).1.live = (changesOf d.queue).foldl applyDelta d.live ∧
    ((d.tick).2.isSome = hasMutation d.queue) ∧
    ∀ b, (d.tick).2 = some b →
      b.targets = (d.tick).1.live ∧
      (∀ ks, (lookup b.modified ks).getD [] = putsFor ks d.queue) ∧
      (∀ ks, (lookup b.removed ks).getD [] = delsFor ks d.queue) := by
  refine ⟨rfl, drain_live d.queue, ?_, fun b hb => ?_⟩
  · unfold Dist.tick
    simp only
    rw [drain_nonempty]
    cases hasMutation d.queue <;> rfl
  · unfold Dist.tick at hb
    simp only at hb
    split at hb
    · cases hb
    · cases hb
      exact ⟨rfl, drain_puts d.queue { live := d.live }, drain_dels d.queue { live := d.live }⟩

/-- **tick_split**: when the interval fires is irrelevant for the membership a service ends up
with — an extra tick between two parts of the queue gives the same live map as one tick over both
(the harness cannot control the 1 s interval of the real service; the model need not). -/
theorem tick_split {α : Type} (d : Dist α) (q2 : List (Op α)) :
    ({ d.tick.1 with queue := q2 } : Dist α).tick.1.live =
      ({ d with queue := d.queue ++ q2 } : Dist α).tick.1.live := by
  simp only [(tick_spec _).2.1, changesOf, List.filterMap_append, List.foldl_append]

theorem drainedD_enqueue {α : Type} (d : Dist α) (op : Op α) :
    drainedD (d.enqueue op) = (changesOf [op]).foldl applyDelta (drainedD d) := by
  rw [drainedD, Dist.enqueue, changesOf, List.filterMap_append, List.foldl_append]
  rfl

/-- The events of the whole pipeline (channel, forwarder, distributor, poller).  `Ev`, `World`, `step`,
`run` and `ValidEv` below are this file's own; of `Props/C16.lean` it uses `SameSet`, `SubOk` and their lemmas. -/
inductive Ev (α : Type) where
  | pub (snap : Snapshot)         -- the node publishes a membership snapshot
  | forward                       -- the store's forwarding task polls its stream
  | mutate (m : Mutation α)       -- a `Consistency::None` / left-over write is handed to the distributor
  | tick                          -- the distributor's interval fires
  | cycle (ok : List Nat)         -- the poller's interval fires; `ok` = the members whose poll succeeds

structure World (α : Type) where
  chan : Chan := {}
  p : Pipeline α := {}
  sent : List (Batch α) := []

def step {α : Type} (self : Nat) (w : World α) : Ev α → World α
  | .pub snap => { w with chan := w.chan.send snap }
  | .forward => { w with p := w.p.forward self w.chan }
  | .mutate m => { w with p := { w.p with dist := w.p.dist.enqueue (.mutation m) } }
  | .tick =>
    let (d', b) := w.p.dist.tick
    { w with p := { w.p with dist := d' }, sent := match b with | some b => w.sent ++ [b] | none => w.sent }
  | .cycle ok => { w with p := { w.p with poller := w.p.poller.cycle ok } }

def run {α : Type} (self : Nat) (evs : List (Ev α)) : World α := evs.foldl (step self) {}

def ValidEv {α : Type} : Ev α → Prop
  | .pub snap => DistinctIds snap
  | _ => True

def idIn (id : Nat) (l : List Member) : Prop := ∃ m ∈ l, m.1 = id

/-- Invariant of the pipeline: the forwarder is a correct subscriber (C16), both services hold — up
to their queued changes — the very live map the forwarder's stream has built up (they are handed
the same deltas in the same order), and the poller's tracker only knows members of its live map. -/
def PInv {α : Type} (self : Nat) (w : World α) : Prop :=
  DistinctIds w.chan.value ∧ SubOk self w.chan w.p.fwd ∧
  drainedD w.p.dist = w.p.fwd.live ∧ drainedP w.p.poller = w.p.fwd.live ∧
  (∀ id ∈ w.p.poller.tracked, idIn id w.p.poller.live)

theorem idIn_applyDelta (id : Nat) (live : List Member) (d : Delta) (h : idIn id live)
    (hl : id ∉ d.left.map (·.1)) : idIn id (applyDelta live d) := by
  obtain ⟨m, hm, e⟩ := h
  refine d.joined.foldlRecOn _ ⟨m, foldl_remove_mem.2 ⟨hm, fun l hl' hc =>
    hl (List.mem_map.2 ⟨l, hl', hc.symm.trans e⟩)⟩, e⟩ ?_
  intro l ⟨m, hm, e⟩ j _
  by_cases hj : m.1 = j.1
  · exact ⟨j, by simp, hj ▸ e⟩
  · exact ⟨m, by simp [removeId_mem, hm, hj], e⟩

theorem pollerStep_tracked (p : Poller) (d : Delta) (h : ∀ id ∈ p.tracked, idIn id p.live) :
    ∀ id ∈ (pollerStep p d).tracked, idIn id (pollerStep p d).live := by
  intro id hid
  obtain ⟨hin, hnl⟩ := List.mem_filter.1 hid
  rw [Bool.not_eq_true', List.contains_eq_mem, decide_eq_false_iff_not] at hnl
  exact idIn_applyDelta id p.live d (h id hin) hnl

theorem cycle_spec (p : Poller) (ok : List Nat) (h : ∀ id ∈ p.tracked, idIn id p.live) :
    (p.cycle ok).queue = [] ∧ (p.cycle ok).live = drainedP p ∧
    ∀ id ∈ (p.cycle ok).tracked, idIn id (p.cycle ok).live := by
  have hfold := p.queue.foldlRecOn pollerStep (b := { p with queue := [] })
    (motive := fun p' : Poller => p'.queue = [] ∧ ∀ id ∈ p'.tracked, idIn id p'.live) ⟨rfl, h⟩
    fun p' hp' d _ => ⟨hp'.1, pollerStep_tracked p' d hp'.2⟩
  refine ⟨hfold.1, (List.foldl_hom Poller.live fun _ _ => rfl).symm, fun id hid => ?_⟩
  rcases List.mem_append.1 hid with hid | hid
  · exact hfold.2 id hid
  · exact List.mem_map.1 (List.mem_filter.1 hid).1

theorem pinv_forward {α : Type} (self : Nat) (w : World α) (h : PInv self w) :
    PInv self (step self w .forward) ∧
    SameSet (step self w .forward).p.fwd.live (networkSet self w.chan.value) := by
  obtain ⟨hc, hsub, hd, hp, ht⟩ := h
  by_cases hseen : w.p.fwd.seen = some w.chan.version
  · simp only [step, Pipeline.forward, Sub.poll_seen hseen]
    exact ⟨⟨hc, hsub, hd, hp, ht⟩, hsub.2.2.1 hseen ▸ hsub.1⟩
  · -- the delta the stream yields and applies to its own live map goes into both queues
    have hok := (subOk_poll self w.chan w.p.fwd hc hsub).1
    simp only [step, Pipeline.forward, Sub.poll_unseen hseen] at hok ⊢
    refine ⟨⟨hc, hok, ?_, ?_, ht⟩, hok.1⟩
    · rw [drainedD_enqueue, hd]
      rfl
    · rw [← hp]
      exact List.foldl_append

theorem pinv_run {α : Type} (self : Nat) (evs : List (Ev α)) (hv : ∀ e ∈ evs, ValidEv e) :
    PInv self (run self evs) := by
  refine evs.foldlRecOn (step self) ⟨nofun, subOk_new self {}, rfl, rfl, nofun⟩ fun w h e he => ?_
  obtain ⟨hc, hsub, hd, hp, ht⟩ := h
  cases e with
  | pub snap => exact ⟨hv _ he, subOk_send self w.chan snap _ hsub, hd, hp, ht⟩
  | forward => exact (pinv_forward self w ⟨hc, hsub, hd, hp, ht⟩).1
  | mutate m => exact ⟨hc, hsub, (drainedD_enqueue w.p.dist (.mutation m)).trans hd, hp, ht⟩
  | tick => exact ⟨hc, hsub, (tick_spec w.p.dist).2.1.trans hd, hp, ht⟩
  | cycle ok =>
    obtain ⟨hq, hl, ht'⟩ := cycle_spec w.p.poller ok ht
    refine ⟨hc, hsub, hd, ?_, ht'⟩
    show drainedP (w.p.poller.cycle ok) = _
    rw [drainedP, hq]
    exact hl.trans hp

/-- **pipeline_tracks** (C16 for the store's own subscribers): after ANY history of publications,
forwarder reads, mutations, ticks and poll cycles, once the forwarder polls its stream and then the
distributor ticks (nothing published in between = quiescent membership), the distributor's
`live_members` holds exactly the other members of the current membership; and if that tick sends a
batch, it goes to exactly those members. -/
theorem pipeline_tracks {α : Type} (self : Nat) (evs : List (Ev α)) (hv : ∀ e ∈ evs, ValidEv e) :
    let w1 := run self (evs ++ [.forward])
    SameSet w1.p.dist.tick.1.live (networkSet self (run self evs).chan.value) ∧
    (run self (evs ++ [.forward, .tick])).p.dist = w1.p.dist.tick.1 ∧
    (∀ b, w1.p.dist.tick.2 = some b → SameSet b.targets (networkSet self (run self evs).chan.value)) := by
  obtain ⟨⟨_, _, hd, _⟩, hlive⟩ := pinv_forward self _ (pinv_run self evs hv)
  -- the tick leaves the distributor with its drained map, and that is the forwarder's
  rw [← (tick_spec _).2.1.trans hd] at hlive
  simp only [run, List.foldl_append, List.foldl_cons, List.foldl_nil]
  exact ⟨hlive, rfl, fun b hb => ((tick_spec _).2.2.2 b hb).1 ▸ hlive⟩

/-- The same for the poller: after a forwarder read and a cycle it polls exactly the current members,
and its keyspace tracker holds entries for members of its live map only (a member that left — or
changed address — is polled from scratch when it is back). -/
theorem poller_tracks {α : Type} (self : Nat) (evs : List (Ev α)) (hv : ∀ e ∈ evs, ValidEv e) (ok : List Nat) :
    let w := run self (evs ++ [.forward, .cycle ok])
    SameSet w.p.poller.live (networkSet self (run self evs).chan.value) ∧
    (∀ id ∈ w.p.poller.tracked, idIn id w.p.poller.live) := by
  obtain ⟨⟨_, _, _, hp, ht⟩, hlive⟩ := pinv_forward self _ (pinv_run self evs hv)
  obtain ⟨_, hl, ht'⟩ := cycle_spec _ ok ht
  simp only [run, List.foldl_append, List.foldl_cons, List.foldl_nil]
  exact ⟨hl ▸ hp ▸ hlive, ht'⟩

/-- Non-vacuity / the D9 witness through the whole pipeline: members 1 and 2 joined before the store
subscribed; a write handed to the distributor after one forwarder read goes to both. -/
example :
    ((run 0 ([.pub [(0, 100), (1, 101)], .pub [(0, 100), (1, 101), (2, 102)], .forward,
        .mutate (.put "ks" 7), .tick] : List (Ev Nat))).sent.map (fun b => (b.targets, b.modified)))
      = [([(1, 101), (2, 102)], [("ks", [7])])] := by decide

/-- A departure queued BEHIND a mutation still takes effect before the batch is sent: the batch does
not go to the member that left. -/
example :
    ((run 0 ([.pub [(0, 100), (1, 101), (2, 102)], .forward, .tick, .mutate (.put "ks" 7),
        .pub [(0, 100), (2, 102)], .forward, .tick] : List (Ev Nat))).sent.map (·.targets))
      = [[(2, 102)]] := by decide

/-! ### a queue that drops what does not fit (seeded change `seeded/C16-rAm1`) -/

/-- `bounded(cap)` + `try_send` with the result ignored: an entry that does not fit is dropped -
mutation or membership change alike. -/
def enqueueBounded {α : Type} (cap : Nat) (d : Dist α) (op : Op α) : Dist α :=
  if d.queue.length < cap then d.enqueue op else d

/-- Witness: behind a burst that fills the queue a join is dropped and the next tick - and every later
one: nobody sends the change again - does not know the member; the unbounded queue of the code
applies it. -/
theorem bounded_queue_loses_membership_change :
    let burst : List (Op Nat) := [.mutation (.put "ks" 1), .mutation (.put "ks" 2)]
    let join : Op Nat := .change ⟨[(3, 103)], []⟩
    (((burst ++ [join]).foldl (enqueueBounded 2) ({} : Dist Nat)).tick).1.live = [] ∧
    (((burst ++ [join]).foldl Dist.enqueue ({} : Dist Nat)).tick).1.live = [(3, 103)] := by decide

end Datacake.C16b
