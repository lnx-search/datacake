/-
C03 / C02 (support) — every state the public API of `OrSWotSet` can build keeps its safe cut-offs
exact, merges included.

`Built F s`: `s` was produced from the empty set by `insert/delete_with_source` (valid stamps),
`purge_old_deletes` and `merge` (of two such states) in ANY order and nesting.  For every such
state the cut-off of each origin is exactly the forgiveness of the minimum over the sources of the
newest stamp seen from it (`SafeExact`) — so what `will_apply` answers at the start of a request
stays true while a batch sorted by stamp is applied (`built_accepts_sorted`): a merged replica
never half-applies a sorted batch that `will_apply` admitted.
-/
import Datacake.Lemmas.SafeExactMerge

namespace Datacake.C03b
open Datacake.OrSwot Datacake.Lww Datacake.Ts

inductive Built (F : Nat) : OrSwot → Prop where
  | empty (n : Nat) : Built F (OrSwot.empty n)
  | apply (s : OrSwot) (o : SrcOp) : Built F s → ValidStamp o.op.ts → Built F (applyOp F s o).1
  | purge (s : OrSwot) : Built F s → Built F (purgeOldDeletes s).1
  | merge (a b : OrSwot) : Built F a → Built F b → Built F (OrSwot.merge F a b)

/-- **built_safeExact**: `SafeExact` and `GoodMaxs` hold of every state the API can build. -/
theorem built_safeExact (F : Nat) (s : OrSwot) (h : Built F s) : SafeExact F s ∧ GoodMaxs s := by
  induction h with
  | empty n => exact ⟨safeExact_empty F n, goodMaxs_empty n⟩
  | apply s o _ hv ih => exact safeExact_applyOp F s o ih.1 ih.2 hv
  | purge s _ ih => exact ⟨safeExact_purge F s ih.1, goodMaxs_congr s _ rfl ih.2⟩
  | merge a b _ _ iha ihb => exact ⟨safeExact_merge F a b iha.1, goodMaxs_merge F a b iha.2 ihb.2⟩

/-- **built_accepts_sorted**: on any such state, a batch in ascending stamp order whose elements
all pass the cut-off check of the state the request started from is accepted element by element. -/
theorem built_accepts_sorted (F : Nat) (s : OrSwot) (h : Built F s) (ops : List SrcOp)
    (hsorted : ops.Pairwise (fun a b => a.op.ts ≤ b.op.ts))
    (hall : ∀ o ∈ ops, ValidStamp o.op.ts ∧ isBefore s.safe o.op.ts = false) : C04.Accepted F s ops :=
  accepted_sorted F ops s (built_safeExact F s h).1 (built_safeExact F s h).2 hsorted hall

example : Built 3600000
    (OrSwot.merge 3600000 (applyOp 3600000 (OrSwot.empty 2) ⟨0, ⟨1, pack 5000 0 1, false⟩⟩).1
      (applyOp 3600000 (OrSwot.empty 2) ⟨1, ⟨2, pack 6000 0 2, false⟩⟩).1) := by
  refine Built.merge _ _ (Built.apply _ _ (Built.empty 2) ?_) (Built.apply _ _ (Built.empty 2) ?_) <;>
    (unfold ValidStamp; decide)

end Datacake.C03b
