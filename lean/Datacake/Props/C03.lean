/-
C03 — Merging replica states is commutative, associative and idempotent.

Model: `OrSwot.merge` (`Model/Orswot.lean`); spec: per-key LWW over the *union* of what the merged
replicas had applied (`Spec/Lww.lean`).  Replica states are those reachable by insert / delete
(through any source) and merge — no purge, as in the property's quantifier — over a history `H` of
operations with valid stamps, under either alternative of the precondition:
all stamps of one origin within one forgiveness period (`WindowH`), or every replica has applied a
gap-free prefix of every origin's operations (`DownClosed`).  The number of sources is arbitrary;
`F` is any multiple of 4 ms (see `Ts.not_lt_forgive`).
-/
import Datacake.Lemmas.ApplyRep
import Datacake.Lemmas.MergeRep

namespace Datacake.C03
open Datacake.Lww Datacake.OrSwot Datacake.Ts

/-- The precondition of the property for a replica that has applied `A`. -/
def Alt (F : Nat) (H A : List Op) : Prop := WindowH F H ∨ DownClosed A H

/-- Replica states reachable over the history `H`, with the list of operations they have applied
(directly or through merged states). -/
inductive Reach (F n : Nat) (H : List Op) : OrSwot → List Op → Prop
  | empty : Reach F n H (OrSwot.empty n) []
  | op (s : OrSwot) (A : List Op) (so : SrcOp) :
      Reach F n H s A → so.op ∈ H → Alt F H (so.op :: A) → Reach F n H (applyOp F s so).1 (so.op :: A)
  | merge (a : OrSwot) (A : List Op) (b : OrSwot) (B : List Op) :
      Reach F n H a A → Reach F n H b B → Reach F n H (OrSwot.merge F a b) (A ++ B)

/-- **reach_rep**: every reachable state is the LWW state of the operations it has applied, and
is sound for the history (whatever it would refuse as too old, it has applied). -/
theorem reach_rep (F n : Nat) (hF : F % 4 = 0) (H : List Op) (hg : GoodHist H)
    (s : OrSwot) (A : List Op) (h : Reach F n H s A) :
    Rep F s A ∧ (∀ o ∈ A, o ∈ H) ∧ Alt F H A ∧ Sound s A H := by
  have sound : ∀ s A, Rep F s A → (∀ o ∈ A, o ∈ H) → Alt F H A → Sound s A H :=
    fun s A r hsub halt => halt.elim (fun hw => sound_of_window hF hg hsub hw r.vers)
      (fun hd => sound_of_downClosed hg hsub hd r.vers)
  suffices h3 : Rep F s A ∧ (∀ o ∈ A, o ∈ H) ∧ Alt F H A from
    ⟨h3.1, h3.2.1, h3.2.2, sound s A h3.1 h3.2.1 h3.2.2⟩
  induction h with
  | empty => exact ⟨rep_empty F n, nofun, Or.inr nofun⟩
  | op s A so _ hH halt ih =>
    obtain ⟨r, hsub, ha⟩ := ih
    exact ⟨applyOp_rep F s A H so r (sound s A r hsub ha) hH, List.forall_mem_cons.2 ⟨hH, hsub⟩, halt⟩
  | merge a A b B _ _ iha ihb =>
    obtain ⟨ra, ha, alta⟩ := iha
    obtain ⟨rb, hb, altb⟩ := ihb
    exact ⟨merge_rep F a b A B H hb ha ra rb (sound a A ra ha alta) (sound b B rb hb altb),
      List.forall_mem_append.2 ⟨ha, hb⟩,
      alta.elim Or.inl fun hda => altb.elim Or.inl fun hdb => Or.inr (downClosed_append A B H hda hdb)⟩

/-- **merged_indistinguishable**: reachable replicas that have (directly or transitively) applied
the same set of operations are indistinguishable by lookups: same live ids, same stamps (and the
same tombstone records). -/
theorem merged_indistinguishable (F n : Nat) (hF : F % 4 = 0) (H : List Op) (hg : GoodHist H)
    (s s' : OrSwot) (A A' : List Op) (h : Reach F n H s A) (h' : Reach F n H s' A')
    (hsame : ∀ o, o ∈ A ↔ o ∈ A') (k : Nat) :
    view s k = view s' k ∧ OrSwot.get s k = OrSwot.get s' k := by
  have hv : view s k = view s' k := by
    rw [(reach_rep F n hF H hg s A h).1.view, (reach_rep F n hF H hg s' A' h').1.view]
    exact lww_ext hsame k
  exact ⟨hv, get_of_view s s' k hv⟩

/-- **merge_comm**: `a.merge(b)` and `b.merge(a)` expose the same records. -/
theorem merge_comm (F n : Nat) (hF : F % 4 = 0) (H : List Op) (hg : GoodHist H)
    (a b : OrSwot) (A B : List Op) (ha : Reach F n H a A) (hb : Reach F n H b B) (k : Nat) :
    view (OrSwot.merge F a b) k = view (OrSwot.merge F b a) k ∧
    OrSwot.get (OrSwot.merge F a b) k = OrSwot.get (OrSwot.merge F b a) k :=
  merged_indistinguishable F n hF H hg _ _ _ _ (Reach.merge a A b B ha hb) (Reach.merge b B a A hb ha)
    (fun o => by simp only [List.mem_append]; exact Or.comm) k

theorem merge_assoc (F n : Nat) (hF : F % 4 = 0) (H : List Op) (hg : GoodHist H)
    (a b c : OrSwot) (A B C : List Op) (ha : Reach F n H a A) (hb : Reach F n H b B)
    (hc : Reach F n H c C) (k : Nat) :
    view (OrSwot.merge F (OrSwot.merge F a b) c) k = view (OrSwot.merge F a (OrSwot.merge F b c)) k ∧
    OrSwot.get (OrSwot.merge F (OrSwot.merge F a b) c) k =
      OrSwot.get (OrSwot.merge F a (OrSwot.merge F b c)) k :=
  merged_indistinguishable F n hF H hg _ _ _ _
    (Reach.merge _ _ c C (Reach.merge a A b B ha hb) hc)
    (Reach.merge a A _ _ ha (Reach.merge b B c C hb hc))
    (fun o => by simp only [List.mem_append]; exact or_assoc) k

/-- **merge_idem**: re-merging a state that has already been merged changes nothing. -/
theorem merge_idem (F n : Nat) (hF : F % 4 = 0) (H : List Op) (hg : GoodHist H)
    (a b : OrSwot) (A B : List Op) (ha : Reach F n H a A) (hb : Reach F n H b B) (k : Nat) :
    view (OrSwot.merge F (OrSwot.merge F a b) b) k = view (OrSwot.merge F a b) k ∧
    OrSwot.get (OrSwot.merge F (OrSwot.merge F a b) b) k = OrSwot.get (OrSwot.merge F a b) k ∧
    view (OrSwot.merge F a a) k = view a k := by
  have h := merged_indistinguishable F n hF H hg _ _ _ _
    (Reach.merge _ _ b B (Reach.merge a A b B ha hb) hb) (Reach.merge a A b B ha hb)
    (fun o => by simp only [List.mem_append, or_assoc, or_self]) k
  exact ⟨h.1, h.2, (merged_indistinguishable F n hF H hg _ _ _ _ (Reach.merge a A a A ha ha) ha
    (fun o => by simp only [List.mem_append, or_self]) k).1⟩

def mergeAll (F : Nat) (x : OrSwot) (l : List (OrSwot × List Op)) : OrSwot :=
  l.foldl (fun acc p => OrSwot.merge F acc p.1) x

theorem reach_mergeAll (F n : Nat) (H : List Op) (x : OrSwot) (X : List Op)
    (l : List (OrSwot × List Op)) (hx : Reach F n H x X) (hl : ∀ p ∈ l, Reach F n H p.1 p.2) :
    Reach F n H (mergeAll F x l) (X ++ l.flatMap (·.2)) := by
  rw [← foldl_appends (fun A p => A ++ p.2) (·) (·.2) l X fun _ _ => rfl]
  exact List.foldl_rel hx fun p hp a A h => Reach.merge a A p.1 p.2 h (hl p hp)

/-- **merge_any_order**: merging other replicas' states in any order, with any repetitions, yields
the same records. -/
theorem merge_any_order (F n : Nat) (hF : F % 4 = 0) (H : List Op) (hg : GoodHist H)
    (x : OrSwot) (X : List Op) (l₁ l₂ : List (OrSwot × List Op)) (hx : Reach F n H x X)
    (h₁ : ∀ p ∈ l₁, Reach F n H p.1 p.2) (h₂ : ∀ p ∈ l₂, Reach F n H p.1 p.2)
    (hsame : ∀ p, p ∈ l₁ ↔ p ∈ l₂) (k : Nat) :
    view (mergeAll F x l₁) k = view (mergeAll F x l₂) k ∧
    OrSwot.get (mergeAll F x l₁) k = OrSwot.get (mergeAll F x l₂) k :=
  merged_indistinguishable F n hF H hg _ _ _ _ (reach_mergeAll F n H x X l₁ hx h₁)
    (reach_mergeAll F n H x X l₂ hx h₂)
    (fun o => by simp only [List.mem_append, List.mem_flatMap, hsame]) k

/-- The merged state is the LWW state of the union (the statement the correspondence check
evaluates with `Datacake.Lww.lww` as oracle). -/
theorem merge_is_lww_of_union (F n : Nat) (hF : F % 4 = 0) (H : List Op) (hg : GoodHist H)
    (a b : OrSwot) (A B : List Op) (ha : Reach F n H a A) (hb : Reach F n H b B) (k : Nat) :
    view (OrSwot.merge F a b) k = lww (A ++ B) k :=
  (reach_rep F n hF H hg _ _ (Reach.merge a A b B ha hb)).1.view k

/-- Outside the precondition merging is *not* commutative (this is why the precondition is there,
not a defect): replica `a` has applied a newer delete of origin 0 but not the older insert of the
same origin, more than `F` apart.  `b.merge(a)` drops key 3, `a.merge(b)` keeps it. -/
theorem outside_precondition_not_commutative :
    let tlo := pack 5000000 0 0
    let thi := pack 9000000 0 0
    let a := (deleteWithSource 3600000 (OrSwot.empty 1) 0 2 thi).1
    let b := (insertWithSource 3600000 (OrSwot.empty 1) 0 3 tlo).1
    OrSwot.get (OrSwot.merge 3600000 b a) 3 = none ∧
    OrSwot.get (OrSwot.merge 3600000 a b) 3 = some tlo := by
  decide

example :
    let t1 := pack 5000000 0 0
    let t2 := pack 5000004 0 1
    let t3 := pack 5000004 1 1
    let H : List Op := [⟨1, t1, false⟩, ⟨1, t2, true⟩, ⟨2, t3, false⟩]
    GoodHist H ∧ WindowH 3600000 H ∧
    ∃ s A, Reach 3600000 2 H s A ∧ A.length = 3 := by
  intro t1 t2 t3 H
  have hw : WindowH 3600000 H := by unfold WindowH; decide
  -- one replica applies the insert of key 1, another its delete and the insert of key 2; then they merge
  have r1 := Reach.op (F := 3600000) (n := 2) (H := H) _ _ ⟨0, ⟨1, t1, false⟩⟩ Reach.empty
    (by simp [H]) (Or.inl hw)
  have r2 := Reach.op (F := 3600000) (n := 2) (H := H) _ _ ⟨1, ⟨1, t2, true⟩⟩ Reach.empty
    (by simp [H]) (Or.inl hw)
  have r3 := Reach.op _ _ ⟨0, ⟨2, t3, false⟩⟩ r2 (by simp [H]) (Or.inl hw)
  exact ⟨⟨by unfold ValidStamp; decide⟩, hw, _, _, Reach.merge _ _ _ _ r1 r3, rfl⟩

end Datacake.C03
