/-
C04 — Per key the greatest timestamp wins, whatever order operations arrive in.

Model: `Model/Orswot.lean` (`insertWithSource`, `deleteWithSource`, `willApply`, acceptance rule
of the current tree); spec: `Spec/Lww.lean`.  The number of sources is arbitrary; `F` (forgiveness,
ms) is arbitrary for the refinement theorems and a multiple of 4 ms where the window is used (see
`Ts.not_lt_forgive`).  `legacy_counterexample` is the negation witness for the pinned acceptance
rule (defect D1), `legacy_epoch_cutoff` the one for the pinned cut-off (defect D17).
-/
import Datacake.Lemmas.Apply

namespace Datacake.C04
open Datacake.Lww Datacake.OrSwot Datacake.Ts

/-- **apply_ops_lww**: on a fresh replica (any number of sources), accepted operations in any
arrival order leave exactly the LWW record of every key (an insert wins an exact tie). -/
theorem apply_ops_lww (F n : Nat) (ops : List SrcOp) (ha : Accepted F (OrSwot.empty n) ops) :
    ∀ k, view (applyAll F (OrSwot.empty n) ops) k = lww (ops.map (·.op)) k :=
  (apply_ops_lww_from F ops (OrSwot.empty n) (disj_empty n) ha).1

/-- All stamps are valid, and any two operations of the same origin node are less than one
forgiveness period apart (in time). -/
def Window (F : Nat) (ops : List SrcOp) : Prop :=
  (∀ a ∈ ops, ValidStamp a.op.ts) ∧
  ∀ a ∈ ops, ∀ b ∈ ops, node a.op.ts = node b.op.ts → dts a.op.ts < dts b.op.ts + F

/-- The induction behind `accepted_of_origin_window`: what the version vectors remember so far are
stamps of `all`, so the window keeps every next stamp above its cut-off. -/
theorem accepted_of_window_aux (F : Nat) (hF : F % 4 = 0) (all : List SrcOp) (hw : Window F all)
    (ops : List SrcOp) (hsub : ∀ o ∈ ops, o ∈ all) {s : OrSwot}
    (hinv : VersInv F s fun m => ∃ a ∈ all, a.op.ts = m) : Accepted F s ops := by
  induction ops generalizing s with
  | nil => trivial
  | cons o rest ih =>
    have ho := hsub o List.mem_cons_self
    exact ⟨not_before_of_window F s _ hinv o.op.ts hF (hw.1 o ho) fun _ ⟨a, ha, e⟩ => e ▸ hw.2 a ha o ho,
      ih (fun x hx => hsub x (List.mem_cons_of_mem _ hx))
        (versInv_applyOp F s o _ _ hinv (fun _ h => h) ⟨o, ho, rfl⟩)⟩

/-- **accepted_of_origin_window**: under the window condition every arrival order (the list `ops`
itself is arbitrary, so this covers all permutations) is accepted on a fresh replica. -/
theorem accepted_of_origin_window (F n : Nat) (hF : F % 4 = 0) (ops : List SrcOp)
    (hw : Window F ops) : Accepted F (OrSwot.empty n) ops :=
  accepted_of_window_aux F hF ops hw ops (fun _ h => h) (versInv_empty F n _)

/-- **order_independent**: two arrival orders (through any sources) of the same operations, all
within the window, give the same record on every key. -/
theorem order_independent (F n : Nat) (hF : F % 4 = 0) (ops₁ ops₂ : List SrcOp)
    (hp : (ops₁.map (·.op)).Perm (ops₂.map (·.op))) (hw₁ : Window F ops₁) (hw₂ : Window F ops₂) :
    ∀ k, view (applyAll F (OrSwot.empty n) ops₁) k = view (applyAll F (OrSwot.empty n) ops₂) k := by
  intro k
  rw [apply_ops_lww F n ops₁ (accepted_of_origin_window F n hF ops₁ hw₁),
      apply_ops_lww F n ops₂ (accepted_of_origin_window F n hF ops₂ hw₂)]
  exact lww_ext (fun _ => hp.mem_iff) k

/-- **result_iff_changed**: an operation returns `true` exactly when the replica's record of that
key changes. -/
theorem result_iff_changed (F : Nat) (s : OrSwot) (o : SrcOp) (hd : Disj s) :
    ((applyOp F s o).2 = true ↔ view (applyOp F s o).1 o.op.key ≠ view s o.op.key) := by
  cases hb : isBefore s.safe o.op.ts with
  | true => rw [applyOp_refused F s o hb]; simp
  | false =>
    obtain ⟨h1, _, h3⟩ := applyOp_step F s o hd hb
    rw [h3, h1, if_pos rfl]
    exact newer_iff_join_ne _ _

/-- **will_apply_predicts**: `will_apply`, asked just before, equals the operation's return value —
for deletes always, for inserts whenever the key's tombstone (if any) does not carry exactly the
insert's stamp (in particular whenever stamps are distinct). -/
theorem will_apply_predicts (F : Nat) (s : OrSwot) (o : SrcOp) (hd : Disj s)
    (htie : o.op.isDel = false → Map.get s.dead o.op.key ≠ some o.op.ts) :
    willApply s o.op.key o.op.ts = (applyOp F s o).2 := by
  cases hb : isBefore s.safe o.op.ts with
  | true => rw [applyOp_refused F s o hb]; simp [willApply, hb]
  | false =>
    rw [Bool.eq_iff_iff, (applyOp_step F s o hd hb).2.2, willApply_iff, and_iff_right hb]
    unfold rank
    cases hdel : o.op.isDel
    · -- an insert ranks one above the delete `will_apply` asks about: only this very tombstone feels it
      have hne : view s o.op.key ≠ some (deadRec o.op.ts) := fun hv => by
        rw [view_of_gets] at hv
        cases he : Map.get s.entries o.op.key <;> cases hdd : Map.get s.dead o.op.key <;>
          simp [he, hdd, deadRec_inj, Ne.symm deadRec_ne_liveRec] at hv
        exact htie hdel (hv ▸ hdd)
      exact forall_congr' fun y => imp_congr_right fun hy =>
        ⟨Nat.lt_succ_of_lt, fun h => Nat.lt_of_le_of_ne (Nat.le_of_lt_succ h) fun e => hne (e ▸ hy)⟩
    · exact Iff.rfl

/-- Defect D1 (pinned acceptance rule): `insert k1 @5000 s` then `insert k2 @4000 s`, same origin,
same source, inside the window.  The second insert is refused although `will_apply` said `true`,
so key 2 ends up absent while LWW says it is live. -/
theorem legacy_counterexample :
    let t1 := pack 5000000 0 0
    let t2 := pack 4000000 0 0
    let s1 := (insertWithSourceLegacy 3600000 (OrSwot.empty 1) 0 1 t1).1
    willApply s1 2 t2 = true ∧
    (insertWithSourceLegacy 3600000 s1 0 2 t2).2 = false ∧
    view (insertWithSourceLegacy 3600000 s1 0 2 t2).1 2 = none ∧
    lww [⟨1, t1, false⟩, ⟨2, t2, false⟩] 2 = some (liveRec t2) ∧
    -- the current rule accepts it
    (insertWithSource 3600000 (insertWithSource 3600000 (OrSwot.empty 1) 0 1 t1).1 0 2 t2).2 = true := by
  decide

/-- Defect D17 (pinned cut-off): for a node whose oldest observed stamp is younger than the
forgiveness period the subtraction clamped at the datacake epoch but kept the counter, so a stamp
of the first tick with a lower counter — well inside the window — lay below the cut-off (which is
what `isBefore` refuses).  The current `forgive` puts the cut-off at the node's very first stamp. -/
theorem legacy_epoch_cutoff :
    let t := pack 1000 5 0
    let m := pack 0 3 0
    ValidStamp m ∧ ValidStamp t ∧ node m = node t ∧ dts t < dts m + 3600000 ∧
    m < forgiveLegacy 3600000 t ∧ ¬ m < forgive 3600000 t := by
  refine ⟨⟨by decide, by decide⟩, ⟨by decide, by decide⟩, by decide, by decide, by decide, by decide⟩

example : Window 3600000
    [⟨0, ⟨1, pack 5000000 0 0, false⟩⟩, ⟨1, ⟨1, pack 4000000 3 0, true⟩⟩,
     ⟨0, ⟨2, pack 4000000 0 1, false⟩⟩, ⟨0, ⟨1, pack 4000000 0 1, true⟩⟩] := by
  unfold Window ValidStamp; decide

end Datacake.C04
