/-
C15, EachQuorum — every data centre contributes a majority of its own.

What `select_sound` leaves open for EachQuorum (its `required` is 0 there): from every data centre
exactly `len / 2 + 1` nodes are selected — `len / 2` from the local one, where the issuing node itself
is the missing member.

Hypotheses: a well-formed layout (distinct names, every address once: `Selector.dcLayout_wf` for the
map `watch_membership_changes` builds), no empty data centre, the local node listed in its own data
centre only (these two are assumed: they are not derived from `dcLayout` here).
-/
import Datacake.Props.C15

namespace Datacake.C15b
open Datacake.Selector Datacake.C15

/-- What EachQuorum takes from data centre `p`. -/
def eachMajority (localDc : Nat) (p : Nat × Cycler) : Nat :=
  if p.1 = localDc then p.2.nodes.length / 2 else p.2.nodes.length / 2 + 1

/-- The part of the selection that comes from data centre `p`. -/
def part (local_ localDc : Nat) (p : Nat × Cycler) : List Nat :=
  (p.2.nodes.filter (· ≠ local_)).take (eachMajority localDc p)

theorem eachQuorum_eq (local_ localDc total : Nat) (dcs : Dcs) (choice : List Nat) :
    (selectNodes local_ localDc total dcs .eachQuorum choice).1 = .ok (dcs.map (part local_ localDc)).flatten :=
  rfl

/-- **each_quorum_sound**: per data centre, exactly the majority the level asks for is selected, all of
them members of that data centre other than the local node. -/
theorem each_quorum_sound (local_ localDc : Nat) (dcs : Dcs) (wf : WF dcs)
    (hne : ∀ p ∈ dcs, p.2.nodes ≠ [])
    (hloc : ∀ p ∈ dcs, local_ ∈ p.2.nodes → p.1 = localDc)
    (p : Nat × Cycler) (hp : p ∈ dcs) :
    (part local_ localDc p).length = eachMajority localDc p ∧
    (part local_ localDc p).Sublist p.2.nodes ∧ local_ ∉ part local_ localDc p := by
  have hnd := nodup_of_mem dcs wf p hp
  refine ⟨?_, (List.take_sublist _ _).trans List.filter_sublist, ?_⟩
  · unfold part
    rw [List.length_take]
    apply Nat.min_eq_left
    unfold eachMajority
    split
    · exact half_le_length_filter_ne _ _ hnd
    · rw [length_filter_ne _ _ hnd, if_neg fun h => ‹¬p.1 = localDc› (hloc p hp h)]
      exact Nat.div_lt_self (List.length_pos_iff.2 (hne p hp)) (by decide)
  · exact fun h => by simpa using List.mem_of_mem_take h

/-- **each_quorum_majority**: in every data centre the nodes that hold an acknowledged write — the
selected ones, and the issuer in its own data centre — are a strict majority of that data centre. -/
theorem each_quorum_majority (local_ localDc : Nat) (dcs : Dcs) (wf : WF dcs)
    (hne : ∀ p ∈ dcs, p.2.nodes ≠ [])
    (hloc : ∀ p ∈ dcs, local_ ∈ p.2.nodes → p.1 = localDc)
    (p : Nat × Cycler) (hp : p ∈ dcs) :
    2 * ((part local_ localDc p).length + (if p.1 = localDc then 1 else 0)) > p.2.nodes.length := by
  rw [(each_quorum_sound local_ localDc dcs wf hne hloc p hp).1]
  unfold eachMajority
  split <;> exact Nat.lt_mul_div_succ _ (by decide)

/-- The whole-cluster levels, for comparison: Quorum selects `total / 2` others, with the issuer a
strict majority of `total`; LocalQuorum the same within the local data centre. -/
theorem quorum_majority (total : Nat) : 2 * (total / 2 + 1) > total :=
  Nat.lt_mul_div_succ _ (by decide)

example :
    (selectNodes 1 0 6 [(0, ⟨0, [1, 2, 3]⟩), (1, ⟨0, [4, 5, 6]⟩)] .eachQuorum []).1 = .ok [2, 4, 5] := by decide

end Datacake.C15b
