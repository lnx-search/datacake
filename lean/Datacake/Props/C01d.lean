/-
C01, the chain — the executable cluster model refines the abstract cluster of the convergence theorems.

`Props/C01.lean` / `Props/C01c.lean` prove convergence for an ABSTRACT cluster; what is run against
the real code is the EXECUTABLE model `Model/Cluster.lean` (keyspace handlers with `will_apply` filters,
stores, bulk requests sorted by stamp, the two halves of an exchange, documents fetched from the peer's
store, trackers).  Two kinds of step of the executable model are matched here by admissible events of
the abstract cluster with the SAME effect on every node's set:

* `applyAt_refines` — a request handled at a node = `apply` events, one per operation the handler lets
  through, in its order;
* `repair_refines` — one exchange done in one piece (`repair`) = ONE `exchangeNA` event of
  `Props/C01c.lean` with the peer's present list as snapshot.  (Not an `exchange` event: the
  `will_apply` filter of the second half, evaluated after the first, may drop items, so what is applied
  need not be the whole difference.)

Not steps of `XStep`: `repairBegin` / `repairEnd` with other steps in between, `repairFetchFail`
(`Props/C01g.lean`), `purge` (`Props/C08c.lean`), `hangAt`.  The run theorems give SOME admissible
abstract run (`∃ evs`) with equal sets; they do not say which events it holds, so the premises of
`convergence_na` about the run (`horigin`, `hpairs`) are not derived.  Hypotheses: storage works at the
acting node (failing: `Props/C01f.lean`) and the peer's store agrees with its set (maintained along
runs: `Props/C01e.lean`).
-/
import Datacake.Lemmas.ClusterSets
import Datacake.Props.C01c

namespace Datacake.C01d
open Datacake.Lww Datacake.OrSwot Datacake.Keyspace Datacake.Storage Datacake.Cluster Datacake.C01 Datacake.C05

/-- For a replica that represents what it applied, `will_apply = false` means "known". -/
theorem knows_of_not_willApply (F : Nat) (H : List Op) (hh : Hist F H) (r : Replica)
    (rep : Rep F r.s r.A) (hsub : ∀ o ∈ r.A, o ∈ H) (o : Op) (ho : o ∈ H)
    (hw : willApply r.s o.key o.ts = false) : Knows r o := by
  cases hb : isBefore r.s.safe o.ts with
  | true => exact knows_of_mem rep (sound_of_window hh.f4 hh.good hsub hh.window rep.vers o ho hb)
  | false =>
    -- the held record belongs to an applied `o'` on the key with `o.ts ≤ o'.ts`: a later stamp has a
    -- greater rank, and at an equal stamp `o'` is `o` (stamps on a key are distinct)
    have h := held_of_refused r.s o.key o.ts hb hw
    rw [rep.view, atLeast_lww] at h
    obtain ⟨o', ho', hk', hle⟩ := h
    exact (knows_iff rep o).2 ⟨o', ho', hk',
      rank_le_of_ts_le (ts_le_of_le_rank hle) (hh.distinct o ho o' (hsub o' ho') hk'.symm)⟩

/-- The admissibility argument of an exchange in two halves, whatever they are (`half₁ s`, `half₂ s`:
what they apply when they start from the set `s`).  If `r` refuses `o` after the first half, what it
knows by then stems from what it had applied or from that half, and `b` holds one record per key. -/
theorem halves_cover {F : Nat} (H : List Op) (hh : Hist F H) (r : Replica) (rep : Rep F r.s r.A)
    (hsub : ∀ o ∈ r.A, o ∈ H) (b : OrSwot) (B : List Op) (repb : Rep F b B) (hB : ∀ o ∈ B, o ∈ H)
    (o : Op) (ho : o ∈ B) (hcur : view b o.key = some (rank o)) (src : Nat) (half₁ half₂ : OrSwot → List SrcOp)
    (hmem : willApply r.s o.key o.ts = true →
      (∀ s, willApply s o.key o.ts = true → (⟨src, o⟩ : SrcOp) ∈ half₁ s) ∨
      (∀ s, willApply s o.key o.ts = true → (⟨src, o⟩ : SrcOp) ∈ half₂ s))
    (recs : ∀ so ∈ half₁ r.s ++ half₂ (applyAll F r.s (half₁ r.s)),
      HasRec b so.op.key so.op.ts so.op.isDel) :
    Knows r o ∨ ∃ so ∈ half₁ r.s ++ half₂ (applyAll F r.s (half₁ r.s)), so.op = o := by
  have key : ∀ ops : List SrcOp, (∀ so ∈ ops, HasRec b so.op.key so.op.ts so.op.isDel) →
      willApply (applyAll F r.s ops) o.key o.ts = false → Knows r o ∨ ∃ so ∈ ops, so.op = o := by
    intro ops hops hw
    have hopsH : ∀ so ∈ ops, so.op ∈ H := fun so h => hB _ (op_of_rec repb _ (hops so h))
    obtain ⟨rep', hsub'⟩ := applyAll_rep F hh.f4 H hh.good hh.window ops hopsH _ _ rep hsub
    obtain ⟨o', ho', hk', hle⟩ :=
      (knows_iff rep' o).1 (knows_of_not_willApply F H hh ⟨_, _⟩ rep' hsub' o (hB o ho) hw)
    rcases List.mem_append.1 ho' with h | h
    · -- `o'` came with `ops`: it is a record of `b`, whose record of the key is `o`
      obtain ⟨so, hso, rfl⟩ := List.mem_map.1 (List.mem_reverse.1 h)
      have hv := (hasRec_iff_view repb.disj).1 (hops so hso)
      rw [hk', hcur] at hv
      exact Or.inr ⟨so, hso, op_eq_of_rank hk' (Option.some.inj hv).symm⟩
    · exact Or.inl ((knows_iff rep o).2 ⟨o', h, hk', hle⟩)
  cases hw0 : willApply r.s o.key o.ts with
  | false => exact (key [] nofun hw0).imp_right fun ⟨_, h, _⟩ => nomatch h
  | true =>
    rcases hmem hw0 with m | m
    · exact Or.inr ⟨_, List.mem_append_left _ (m _ hw0), rfl⟩
    · cases hw : willApply (applyAll F r.s (half₁ r.s)) o.key o.ts with
      | true => exact Or.inr ⟨_, List.mem_append_right _ (m _ hw), rfl⟩
      | false =>
        exact (key _ (fun so h => recs so (List.mem_append_left _ h)) hw).imp_right
          fun ⟨so, h, e⟩ => ⟨so, List.mem_append_left _ h, e⟩

/-- **repair_refines**: one exchange of the executable cluster model IS an admissible (non-atomic)
exchange event of the abstract cluster of `Props/C01c.lean`, with the same effect on every node's set. -/
theorem repair_refines (H : List Op) (hh : Hist Cluster.F H) (c : Cluster) (a : Cl) (hg : Good Cluster.F H a)
    (hs : ∀ x, (a x).s = absSet c x) (j i : Nat) (rf : Bool) (hl : j < c.nodes.length)
    (hf : (getNode c j).failNext = false) (hji : j ≠ i) (hagree : Agree (getNode c i).ks)
    (hex : (getNode c i).exists_ = true)
    (htr : ((getNode c j).tracker.getD i none == some (getNode c i).change) = false) :
    C01c.Valid H a (.exchangeNA j i (a i).A (repairOps c j i rf)) ∧
    ∀ x, (C01c.step Cluster.F a (.exchangeNA j i (a i).A (repairOps c j i rf)) x).s = absSet (repair c j i rf).1 x := by
  refine ⟨?_, fun x => by
    rw [repair_sets c j i rf hl hf hji x]
    simp only [C01c.step, upd, apply_ite Replica.s, hs]⟩
  obtain ⟨repi, hsubi⟩ := hg i
  rw [hs i] at repi
  -- what the exchange applies are records of the peer, so operations the peer has applied
  have hall := fun so hso => (repairOps_diff c j i rf hagree so hso).1
  refine ⟨fun o ho => ho, fun so hso => op_of_rec repi _ (hall so hso), ?_⟩
  intro o ho hcur
  unfold C01c.Current at hcur
  rw [hs i] at hcur
  have hrec : HasRec (absSet c i) o.key o.ts o.isDel := (hasRec_iff_view repi.disj).2 hcur
  have hin := halves_offer (getNode c i).ks hagree (a j).s o hrec
  unfold repairOps at hall ⊢
  simp only [hex, htr, Bool.not_true, Bool.false_eq_true, if_false, ← hs j] at hall ⊢
  have hc := halves_cover H hh (a j) (hg j).1 (hg j).2 _ _ repi hsubi o ho hcur
  cases rf
  -- the halves are read off `hin`, applied first: matched against the goal they are dear to find
  · exact (hc 1 _ _ fun hw0 => (hin hw0).symm) hall
  · exact (hc 1 _ _ hin) hall

/-- A list of operations applied at node `i` through source `src`, as abstract events. -/
def applyEvents (i src : Nat) (ops : List Op) : List C01c.Ev := ops.map (fun o => .apply i src o)

theorem run_applyEvents (F : Nat) (a : Cl) (i src : Nat) (ops : List Op) (x : Nat) :
    (C01c.run F a (applyEvents i src ops) x).s =
      if x = i then applyAll F (a i).s (ops.map (fun o => ⟨src, o⟩)) else (a x).s := by
  rw [C01c.run, applyEvents, List.foldl_map, applyAll, List.foldl_map]
  refine foldl_at (fun c x => (c x).s) (fun s o => (applyOp F s ⟨src, o⟩).1) (fun c o x => ?_) ops a x
  simp only [C01c.step, upd]
  split <;> rfl

theorem validRun_applyEvents {F : Nat} (H : List Op) (a : Cl) (i src : Nat) {ops : List Op} (h : ∀ o ∈ ops, o ∈ H) :
    C01c.ValidRun F H a (applyEvents i src ops) := by
  induction ops generalizing a with
  | nil => trivial
  | cons o rest ih =>
    exact ⟨h o List.mem_cons_self, ih _ (fun o' ho' => h o' (List.mem_cons_of_mem _ ho'))⟩

/-- **applyAt_refines**: a request handled at node `i` of the executable cluster model (a client
write, a delivered replication message, in bulk or not; storage working) is matched by admissible
`apply` events of the abstract cluster with the same effect on every node's set. -/
theorem applyAt_refines (H : List Op) (c : Cluster) (a : Cl) (hs : ∀ x, (a x).s = absSet c x)
    (i src : Nat) (iss : Issued) (hl : i < c.nodes.length) (hf : (getNode c i).failNext = false)
    (hH : ∀ o ∈ carried iss, o ∈ H) :
    C01c.ValidRun Cluster.F H a (applyEvents i src (requestOps (absSet c i) iss)) ∧
    ∀ x, (C01c.run Cluster.F a (applyEvents i src (requestOps (absSet c i) iss)) x).s = absSet (applyAt c i src iss).1 x := by
  refine ⟨validRun_applyEvents H a i src (fun o ho => hH o (requestOps_sub _ iss o ho)), fun x => ?_⟩
  rw [run_applyEvents, applyAt_sets c i src iss hl hf x, hs i, hs x]

/-- A step of the executable cluster model that can change a replicated set. -/
inductive XStep where
  | request (i src : Nat) (iss : Issued)        -- a request handled at node `i` on source `src`
  | exchange (j i : Nat) (removalsFirst : Bool) -- node `j` repairs from node `i`

def xstep (c : Cluster) : XStep → Cluster
  | .request i src iss => (applyAt c i src iss).1
  | .exchange j i rf => (repair c j i rf).1

def xrun (c : Cluster) (steps : List XStep) : Cluster := steps.foldl xstep c

/-- The step happens under the conditions of the refinement theorems: storage works at the acting
node, requests carry operations of the history, the peer of an exchange has a store that agrees with
its set. -/
def Admissible (H : List Op) (c : Cluster) : XStep → Prop
  | .request i _ iss => i < c.nodes.length ∧ (getNode c i).failNext = false ∧ ∀ o ∈ carried iss, o ∈ H
  | .exchange j i _ => j < c.nodes.length ∧ (getNode c j).failNext = false ∧ j ≠ i ∧ Agree (getNode c i).ks

def AdmissibleRun (H : List Op) : Cluster → List XStep → Prop
  | _, [] => True
  | c, s :: rest => Admissible H c s ∧ AdmissibleRun H (xstep c s) rest

/-- No event when the poll is skipped. -/
def eventsOf (c : Cluster) (a : Cl) : XStep → List C01c.Ev
  | .request i src iss => applyEvents i src (requestOps (absSet c i) iss)
  | .exchange j i rf =>
    if (getNode c i).exists_ && !((getNode c j).tracker.getD i none == some (getNode c i).change)
    then [.exchangeNA j i (a i).A (repairOps c j i rf)] else []

theorem repair_skipped (c : Cluster) (j i : Nat) (rf : Bool) (h : polls c j i = false) :
    repair c j i rf = (c, .skipped) := by
  rw [repair, polls_ite, h]
  rfl

theorem xstep_refines (H : List Op) (hh : Hist Cluster.F H) (c : Cluster) (a : Cl) (hg : Good Cluster.F H a)
    (hs : ∀ x, (a x).s = absSet c x) (s : XStep) (hadm : Admissible H c s) :
    C01c.ValidRun Cluster.F H a (eventsOf c a s) ∧
    Good Cluster.F H (C01c.run Cluster.F a (eventsOf c a s)) ∧
    (∀ x, (C01c.run Cluster.F a (eventsOf c a s) x).s = absSet (xstep c s) x) := by
  suffices key : C01c.ValidRun Cluster.F H a (eventsOf c a s) ∧
      (∀ x, (C01c.run Cluster.F a (eventsOf c a s) x).s = absSet (xstep c s) x) from
    ⟨key.1, C01c.good_run Cluster.F H hh _ a hg key.1, key.2⟩
  cases s with
  | request i src iss =>
    obtain ⟨hl, hf, hH⟩ := hadm
    exact applyAt_refines H c a hs i src iss hl hf hH
  | exchange j i rf =>
    obtain ⟨hl, hf, hji, hagree⟩ := hadm
    simp only [eventsOf, xstep]
    split
    · next hp =>
      simp only [Bool.and_eq_true, Bool.not_eq_true'] at hp
      obtain ⟨hv, hsets⟩ := repair_refines H hh c a hg hs j i rf hl hf hji hagree hp.1 hp.2
      exact ⟨⟨hv, trivial⟩, hsets⟩
    · next hp =>
      rw [repair_skipped c j i rf (Bool.eq_false_iff.2 hp)]
      exact ⟨trivial, hs⟩

/-- The one induction over runs of the executable cluster: `R` relates it to the abstract cluster, `Adm`
is admissibility of a step and `P` of a run, `ev` the abstract events a step stands for. -/
theorem xrun_match (H : List Op) {R : Cluster → Cl → Prop} {Adm : Cluster → XStep → Prop}
    {P : Cluster → List XStep → Prop} {ev : Cluster → Cl → XStep → List C01c.Ev}
    (hP : ∀ c s rest, P c (s :: rest) → Adm c s ∧ P (xstep c s) rest)
    (hstep : ∀ c a, R c a → ∀ s, Adm c s →
      C01c.ValidRun Cluster.F H a (ev c a s) ∧ R (xstep c s) (C01c.run Cluster.F a (ev c a s)))
    (steps : List XStep) (c : Cluster) (a : Cl) (hR : R c a) (hadm : P c steps) :
    ∃ evs, C01c.ValidRun Cluster.F H a evs ∧ R (xrun c steps) (C01c.run Cluster.F a evs) := by
  induction steps generalizing c a with
  | nil => exact ⟨[], trivial, hR⟩
  | cons s rest ih =>
    obtain ⟨hs, hrest⟩ := hP c s rest hadm
    obtain ⟨hv1, hR1⟩ := hstep c a hR s hs
    obtain ⟨evs, hv2, hR2⟩ := ih (xstep c s) _ hR1 hrest
    refine ⟨ev c a s ++ evs, C01c.validRun_append H a hv1 hv2, ?_⟩
    rw [C01c.run, List.foldl_append]
    exact hR2

/-- **xrun_refines**: every admissible run of the executable cluster model is matched by an admissible
run of the abstract cluster with equal sets at every node. -/
theorem xrun_refines (H : List Op) (hh : Hist Cluster.F H) (steps : List XStep) (c : Cluster) (a : Cl)
    (hg : Good Cluster.F H a) (hs : ∀ x, (a x).s = absSet c x) (hadm : AdmissibleRun H c steps) :
    ∃ evs, C01c.ValidRun Cluster.F H a evs ∧ Good Cluster.F H (C01c.run Cluster.F a evs) ∧
      ∀ x, (C01c.run Cluster.F a evs x).s = absSet (xrun c steps) x :=
  xrun_match H (R := fun c a => Good Cluster.F H a ∧ ∀ x, (a x).s = absSet c x) (P := AdmissibleRun H)
    (fun _ _ _ h => h) (fun c a hR => xstep_refines H hh c a hR.1 hR.2) steps c a ⟨hg, hs⟩ hadm

end Datacake.C01d
