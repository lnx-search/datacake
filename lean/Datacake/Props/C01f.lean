/-
C01, storage failures inside the runs of the executable cluster model.

`xrun_inv` (Props/C01e.lean) follows runs whose steps act with working storage.  Here the acting
node's next storage mutation may FAIL (`failNext`, the fault the harness injects): a request whose
storage call fails, and an exchange whose first storage call fails, change no keyspace of any node —
they are matched by NO event of the abstract cluster (for convergence they are lost messages).  No step
of `XStep` arms a fault (`applyAt` only consumes the flag), so the faults met along a run are those
pending in the cluster it starts from.
-/
import Datacake.Props.C01e

namespace Datacake.C01d
open Datacake.Lww Datacake.OrSwot Datacake.Keyspace Datacake.Storage Datacake.Cluster Datacake.C01 Datacake.C05

/-- **applyAt_fail**: a request at a node whose next storage mutation fails changes no keyspace;
if the handler still returns `Ok` it made no storage call (the request was refused as stale) and the
fault is still pending. -/
theorem applyAt_fail (c : Cluster) (i src : Nat) (iss : Issued) (h : i < c.nodes.length)
    (hf : (getNode c i).failNext = true) :
    (∀ x, (getNode (applyAt c i src iss).1 x).ks = (getNode c x).ks) ∧
    ((applyAt c i src iss).2 = true → (getNode (applyAt c i src iss).1 i).failNext = true) := by
  have H := applyAt_handled c i src iss h
  rw [hf, handleAt_fault] at H
  exact ⟨H.toKsUpd.same, fun ok => (H.fault ok).trans hf⟩

/-- **repair_fail**: whichever half meets the fault applies nothing, and the exchange stops there. -/
theorem repair_fail (c : Cluster) (j i : Nat) (rf : Bool) (h : j < c.nodes.length)
    (hf : (getNode c j).failNext = true) : ∀ x, (getNode (repair c j i rf).1 x).ks = (getNode c x).ks := by
  obtain ⟨docs, _, H⟩ := repair_upd c j i rf h
  rw [hf, List.foldlRecOn (motive := (· = (getNode c j).ks)) _ (fun k q => (handleAt k 1 true q).1) rfl
    (fun k hk q _ => by rw [hk, handleAt_fault])] at H
  exact H.same

/-- The node whose storage fault a step would meet. -/
def actor : XStep → Nat
  | .request i _ _ => i
  | .exchange j _ _ => j

/-- What a step needs from its environment when storage may fail: it acts at an existing node,
requests carry operations of the history, a node does not repair from itself. -/
def AdmissibleF (H : List Op) (c : Cluster) : XStep → Prop
  | .request i _ iss => i < c.nodes.length ∧ (∀ o ∈ carried iss, o ∈ H)
  | .exchange j i _ => j < c.nodes.length ∧ j ≠ i

def AdmissibleRunF (H : List Op) : Cluster → List XStep → Prop
  | _, [] => True
  | c, s :: rest => AdmissibleF H c s ∧ AdmissibleRunF H (xstep c s) rest

def eventsOfF (c : Cluster) (a : Cl) (s : XStep) : List C01c.Ev :=
  if (getNode c (actor s)).failNext then [] else eventsOf c a s

theorem xstep_invF (H : List Op) (hh : Hist Cluster.F H) (c : Cluster) (a : Cl) (inv : Inv H c a)
    (s : XStep) (hadm : AdmissibleF H c s) :
    C01c.ValidRun Cluster.F H a (eventsOfF c a s) ∧ Inv H (xstep c s) (C01c.run Cluster.F a (eventsOfF c a s)) := by
  unfold eventsOfF
  cases hfl : (getNode c (actor s)).failNext with
  | false => exact xstep_inv H hh c a inv s (by cases s <;> exact ⟨hadm.1, hfl, hadm.2⟩)
  | true =>
    refine ⟨trivial, ?_⟩
    have hks : ∀ x, (getNode (xstep c s) x).ks = (getNode c x).ks := by
      cases s with
      | request i src iss => exact (applyAt_fail c i src iss hadm.1 hfl).1
      | exchange j i rf => exact repair_fail c j i rf hadm.1 hfl
    obtain ⟨hs, hg, hn⟩ := inv
    refine ⟨fun x => ?_, hg, fun x => ?_⟩
    · show (a x).s = absSet (xstep c s) x
      unfold absSet; rw [hks x]; exact hs x
    · rw [hks x]; exact hn x

/-- **xrun_invF**: `xrun_inv` from any cluster, whichever nodes have a storage fault pending. -/
theorem xrun_invF (H : List Op) (hh : Hist Cluster.F H) (steps : List XStep) (c : Cluster) (a : Cl)
    (inv : Inv H c a) (hadm : AdmissibleRunF H c steps) :
    ∃ evs, C01c.ValidRun Cluster.F H a evs ∧ Inv H (xrun c steps) (C01c.run Cluster.F a evs) :=
  xrun_match H (P := AdmissibleRunF H) (fun _ _ _ h => h) (xstep_invF H hh) steps c a inv hadm

end Datacake.C01d
