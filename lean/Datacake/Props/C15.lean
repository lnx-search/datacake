/-
C15 — Replica selection yields enough distinct live peers or reports too few.

Model: `Model/Selector.lean`.  The hypothesis `GoodChoice dcs n choice` can only be met when the layout has at
least `n` data centres; `selectN_spec` and `select_spec`, from which the other theorems follow, also
cover the layouts with fewer (no random choice is made there).
-/
import Datacake.Lemmas.SelectorSweep

namespace Datacake.C15
open Datacake.Selector

/-- What the random `choose_multiple(&mut rng, n)` can return when more than `n` data centres are
eligible: `n` distinct data centres of the layout. -/
structure GoodChoice (dcs : Dcs) (n : Nat) (choice : List Nat) : Prop where
  nodup : choice.Nodup
  len : choice.length = n
  present : ∀ d ∈ choice, ∃ c, getDc dcs d = some c

theorem filtered_length (dcs : Dcs) (hids : (dcs.map (·.1)).Nodup) (localDc : Nat) (skip : Bool)
    (hl : ∃ c, getDc dcs localDc = some c) :
    ((dcs.filter (fun p => !(skip && p.1 == localDc))).map (·.1)).length =
      if skip then dcs.length - 1 else dcs.length := by
  cases skip with
  | false => simp
  | true =>
    have e : (dcs.filter (fun p => !(true && p.1 == localDc))).map (·.1) = (dcs.map (·.1)).filter (· ≠ localDc) := by
      rw [List.filter_map]; congr 2; funext p; simp [Bool.beq_eq_decide_eq]
    rw [e, length_filter_ne _ _ hids, if_pos ((getDc_isSome dcs localDc).1 hl), List.length_map]
    rfl

/-- Number of nodes the level requires (other than the issuing node): `n` for One/Two/Three,
`total / 2` for Quorum (a majority counting the issuer), half of the local data centre for
LocalQuorum, every other member for All; EachQuorum is per data centre (see `each_quorum_sound`). -/
def required (lvl : Level) (local_ localDc total : Nat) (dcs : Dcs) : Nat :=
  match lvl with
  | .none => 0
  | .one => 1 | .two => 2 | .three => 3
  | .quorum => total / 2
  | .localQuorum => match getDc dcs localDc with | some c => c.nodes.length / 2 | none => 0
  | .all => ((allNodes dcs).filter (· ≠ local_)).length
  | .eachQuorum => 0

/-- `select_n_nodes` after its loop over the data centres: the result, or the fallback sweep. -/
def finish (local_ n : Nat) (st : LoopSt) : Res × Dcs :=
  if st.panicked then (.panic, st.dcs)
  else if st.selected.length ≥ n then (.ok st.selected, st.dcs)
  else
    let r := sweep local_ n st.dcs st.selected
    if r.2.length ≥ n then (.ok r.2, r.1) else (.notEnough r.2.length n, r.1)

theorem selectN_start (local_ localDc n total : Nat) (dcs : Dcs) (choice : List Nat) (hids : (dcs.map (·.1)).Nodup)
    (hl : ∃ c, getDc dcs localDc = some c) (hchoice : dcs.length ≤ n ∨ GoodChoice dcs n choice) :
    ∃ (extra : Nat) (ds : List Nat), ds.Nodup ∧ (∀ d ∈ ds, ∃ c, getDc dcs d = some c) ∧ extra + ds.length = n ∧
      selectN local_ localDc n total dcs choice = finish local_ n
        (ds.foldl (loopStep local_) { dcs := dcs, selected := [], extra := extra, dcCount := ds.length }) := by
  have hne : dcs ≠ [] := by obtain ⟨c, hc⟩ := hl; intro e; rw [e] at hc; cases hc
  unfold selectN
  dsimp only
  rw [if_neg fun hp => hne (List.length_eq_zero_iff.1 hp.2)]
  generalize decide (_ ≥ n) = skip
  have hflen := filtered_length dcs hids localDc skip hl
  have hnum : (if skip = true then dcs.length - 1 else dcs.length) ≤ dcs.length := by cases skip <;> simp
  generalize (if skip = true then dcs.length - 1 else dcs.length) = numDcs at hflen hnum ⊢
  by_cases hle : numDcs ≤ n
  · rw [if_pos hle]
    exact ⟨_, _, List.Nodup.sublist (List.Sublist.map _ List.filter_sublist) hids,
      fun d hd => (getDc_isSome dcs d).2 ((List.Sublist.map _ List.filter_sublist).subset hd), by rw [hflen]; exact Nat.sub_add_cancel hle, rfl⟩
  · -- the random choice is used only when there are more than `n` data centres to choose from
    rw [if_neg hle]
    obtain ⟨h1, h2, h3⟩ := hchoice.resolve_left fun h => hle (Nat.le_trans hnum h)
    exact ⟨0, choice, h1, h3, by rw [h2, Nat.zero_add], rfl⟩

structure SelectsN (local_ n : Nat) (dcs : Dcs) (r : Res × Dcs) : Prop where
  layout : layoutOf r.2 = layoutOf dcs
  ok : ∀ ns, r.1 = .ok ns → ns.Nodup ∧ local_ ∉ ns ∧ (∀ x ∈ ns, x ∈ allNodes dcs) ∧ ns.length = n
  noPanic : r.1 ≠ .panic
  short : ∀ live req, r.1 = .notEnough live req →
    req = n ∧ ((allNodes dcs).filter (· ≠ local_)).length < n

theorem finish_spec (local_ n : Nat) (dcs : Dcs) (wf : WF dcs) {st : LoopSt} (P : List Nat)
    (inv : LoopInv local_ n dcs st P []) : SelectsN local_ n dcs (finish local_ n st) := by
  have hsum : st.selected.length + st.extra = n := inv.sum
  have hselAll : ∀ x ∈ st.selected, x ∈ allNodes dcs := by
    intro x hx
    obtain ⟨d, _, c, hc, hxc⟩ := inv.fromP x hx
    exact (sublist_allNodes dcs (d, c) (getDc_mem dcs d c hc)).subset hxc
  have hall : allNodes st.dcs = allNodes dcs := allNodes_of_layout _ _ inv.layout
  obtain ⟨s1, s2, s3, s4⟩ := sweep_spec local_ n st.dcs st.selected
  unfold finish
  rw [inv.alive, if_neg Bool.false_ne_true]
  by_cases h1 : st.selected.length ≥ n
  · rw [if_pos h1]
    exact ⟨inv.layout, fun ns hns => by cases hns; exact ⟨inv.nodup, inv.noLocal, hselAll, Nat.le_antisymm (hsum ▸ Nat.le_add_right ..) h1⟩,
      nofun, nofun⟩
  · rw [if_neg h1]
    by_cases h2 : (sweep local_ n st.dcs st.selected).2.length ≥ n
    · simp only [if_pos h2]
      refine ⟨s1.trans inv.layout, fun ns hns => ?_, nofun, nofun⟩
      cases hns
      refine ⟨s2.nodup inv.nodup, s2.not_mem inv.noLocal, fun x hx => ?_, Nat.le_antisymm (s3 (Nat.le_of_not_le h1)) h2⟩
      exact (s2.mem x hx).elim (hselAll x) (fun h => hall ▸ h.1)
    · simp only [if_neg h2]
      refine ⟨s1.trans inv.layout, nofun, nofun, fun live req h => ?_⟩
      cases h
      -- the sweep ended short: it holds every other node of the layout, and these are distinct
      refine ⟨rfl, Nat.lt_of_le_of_lt (List.Nodup.length_le_of_subset
        (List.Nodup.sublist List.filter_sublist wf.addrs) fun x hx => ?_) (Nat.not_le.1 h2)⟩
      obtain ⟨hx1, hx2⟩ := List.mem_filter.1 hx
      exact s4 (Nat.not_le.1 h2) x (hall ▸ hx1) (of_decide_eq_true hx2)

theorem selectN_spec (local_ localDc n total : Nat) (dcs : Dcs) (choice : List Nat) (wf : WF dcs)
    (hl : ∃ c, getDc dcs localDc = some c) (hchoice : dcs.length ≤ n ∨ GoodChoice dcs n choice) :
    SelectsN local_ n dcs (selectN local_ localDc n total dcs choice) := by
  obtain ⟨extra, ds, h1, h2, h3, e⟩ := selectN_start local_ localDc n total dcs choice wf.ids hl hchoice
  have inv0 : LoopInv local_ n dcs ⟨dcs, [], extra, ds.length, false⟩ [] ds :=
    ⟨rfl, rfl, nofun, List.nodup_nil, nofun, h1, fun d hd => ⟨nofun, h2 d hd⟩, Nat.le_refl _,
      by simpa using h3⟩
  obtain ⟨P', inv⟩ := foldl_loopStep_inv local_ n dcs wf _ _ [] inv0
  rw [e]
  exact finish_spec local_ n dcs wf P' inv

/-- **selectN_sound**: whatever the cursors are (whatever was selected before) and whatever the
random choice, `select_n_nodes` keeps the layout, never panics, and an `Ok` result consists of
exactly `n` pairwise distinct nodes of the layout, none of them the local node. -/
theorem selectN_sound (local_ localDc n total : Nat) (dcs : Dcs) (choice : List Nat) (wf : WF dcs)
    (hl : ∃ c, getDc dcs localDc = some c)
    (hchoice : GoodChoice dcs n choice) :
    layoutOf (selectN local_ localDc n total dcs choice).2 = layoutOf dcs ∧
    (∀ ns, (selectN local_ localDc n total dcs choice).1 = .ok ns →
      ns.Nodup ∧ local_ ∉ ns ∧ (∀ x ∈ ns, x ∈ allNodes dcs) ∧ ns.length = n) ∧
    (selectN local_ localDc n total dcs choice).1 ≠ .panic ∧
    (∀ live req, (selectN local_ localDc n total dcs choice).1 = .notEnough live req →
      req = n ∧ ((allNodes dcs).filter (· ≠ local_)).length < n) := by
  have h := selectN_spec local_ localDc n total dcs choice wf hl (.inr hchoice)
  exact ⟨h.layout, h.ok, h.noPanic, h.short⟩

/-- **selectN_complete**: `select_n_nodes` reports `NotEnoughNodes` only when the layout really
holds fewer than `n` nodes other than the local one. -/
theorem selectN_complete (local_ localDc n total : Nat) (dcs : Dcs) (choice : List Nat) (wf : WF dcs)
    (hl : ∃ c, getDc dcs localDc = some c) (hchoice : GoodChoice dcs n choice) (live req : Nat)
    (h : (selectN local_ localDc n total dcs choice).1 = .notEnough live req) :
    req = n ∧ ((allNodes dcs).filter (· ≠ local_)).length < n :=
  (selectN_spec local_ localDc n total dcs choice wf hl (.inr hchoice)).short live req h

/-- Contrapositive, in the property's words: with at least `n` other live nodes the selection succeeds. -/
theorem selectN_enough (local_ localDc n total : Nat) (dcs : Dcs) (choice : List Nat) (wf : WF dcs)
    (hl : ∃ c, getDc dcs localDc = some c) (hchoice : GoodChoice dcs n choice)
    (henough : n ≤ ((allNodes dcs).filter (· ≠ local_)).length) :
    ∃ ns, (selectN local_ localDc n total dcs choice).1 = .ok ns := by
  have h := selectN_spec local_ localDc n total dcs choice wf hl (.inr hchoice)
  cases hr : (selectN local_ localDc n total dcs choice).1 with
  | ok ns => exact ⟨ns, rfl⟩
  | notEnough live req => exact absurd (h.short live req hr).2 (Nat.not_lt.2 henough)
  | panic => exact absurd hr h.noPanic

theorem quorumLoop_spec (fuel : Nat) : ∀ (its : List (List Nat)) (sel : List Nat) (majority : Nat),
    quorumLoop fuel its sel majority ≠ .panic ∧
    ∀ ns, quorumLoop fuel its sel majority = .ok ns →
      ns.length ≥ majority ∧ ∃ rest, (ns ++ rest).Perm (sel ++ its.flatten) := by
  induction fuel with
  | zero => exact fun _ _ _ => ⟨nofun, nofun⟩
  | succ fuel ih =>
    intro its sel m
    unfold quorumLoop
    split
    · exact ⟨nofun, fun ns h => by cases h; exact ⟨‹_›, its.flatten, List.Perm.refl _⟩⟩
    · dsimp only
      split
      · exact ⟨nofun, nofun⟩
      · refine ⟨(ih _ _ _).1, fun ns h => ?_⟩
        obtain ⟨h1, rest, h2⟩ := (ih _ _ _).2 ns h
        exact ⟨h1, rest, h2.trans (List.append_assoc .. ▸ (heads_tails_perm its).append_left sel)⟩

/-- A request to the actor: level, whether a cached answer younger than 2 s may be used, and the
outcome of the random choice. -/
structure Get where
  lvl : Level
  fresh : Bool
  choice : List Nat

/-- The random choice of a request is good for the `n` of its level.  The premises fix `n`: at One,
Two, Three it is 1, 2, 3; at the other levels the last premise fails and nothing is asked (they make
no random choice). -/
def ChoiceOk (dcs : Dcs) (g : Get) : Prop :=
  ∀ n, (g.lvl = .one → n = 1) → (g.lvl = .two → n = 2) → (g.lvl = .three → n = 3) →
    (g.lvl = .one ∨ g.lvl = .two ∨ g.lvl = .three) → GoodChoice dcs n g.choice

structure Selects (lvl : Level) (local_ localDc total : Nat) (dcs : Dcs) (r : Res × Dcs) : Prop where
  layout : layoutOf r.2 = layoutOf dcs
  noPanic : r.1 ≠ .panic
  ok : ∀ ns, r.1 = .ok ns → ns.Nodup ∧ local_ ∉ ns ∧ (∀ x ∈ ns, x ∈ allNodes dcs) ∧
    ns.length ≥ required lvl local_ localDc total dcs ∧
    ((lvl = .one ∨ lvl = .two ∨ lvl = .three) → ns.length = required lvl local_ localDc total dcs)

theorem select_spec (local_ localDc total : Nat) (dcs : Dcs) (lvl : Level) (choice : List Nat)
    (wf : WF dcs) (hl : ∃ c, getDc dcs localDc = some c)
    (hchoice : lvl = .one ∨ lvl = .two ∨ lvl = .three → dcs.length ≤ required lvl local_ localDc total dcs ∨
      GoodChoice dcs (required lvl local_ localDc total dcs) choice) :
    Selects lvl local_ localDc total dcs (selectNodes local_ localDc total dcs lvl choice) := by
  have ofN : ∀ n, required lvl local_ localDc total dcs = n → dcs.length ≤ n ∨ GoodChoice dcs n choice →
      Selects lvl local_ localDc total dcs (selectN local_ localDc n total dcs choice) := by
    intro n hn hc
    have h := selectN_spec local_ localDc n total dcs choice wf hl hc
    refine ⟨h.layout, h.noPanic, fun ns hns => ?_⟩
    obtain ⟨a, b, c, d⟩ := h.ok ns hns
    exact ⟨a, b, c, hn ▸ Nat.le_of_eq d.symm, fun _ => hn ▸ d⟩
  -- the other levels take, per data centre, some of its nodes other than the local one
  have hoth : (allNodes dcs).filter (· ≠ local_) = (dcs.map fun p => p.2.nodes.filter (· ≠ local_)).flatten := by
    unfold allNodes; rw [List.filter_flatten, List.map_map]; rfl
  have hothNodup : ((allNodes dcs).filter (· ≠ local_)).Nodup := List.Nodup.sublist List.filter_sublist wf.addrs
  have ofOk : ∀ ns : List Nat, ns.Nodup → (∀ x ∈ ns, x ∈ (allNodes dcs).filter (· ≠ local_)) →
      required lvl local_ localDc total dcs ≤ ns.length → ¬(lvl = .one ∨ lvl = .two ∨ lvl = .three) →
      Selects lvl local_ localDc total dcs (.ok ns, dcs) := fun ns hnd h hlen hl =>
    ⟨rfl, nofun, fun _ e => by
      cases e
      exact ⟨hnd, fun hm => of_decide_eq_true (List.mem_filter.1 (h _ hm)).2 rfl,
        fun x hx => (List.mem_filter.1 (h x hx)).1, hlen, fun h => absurd h hl⟩⟩
  cases lvl with
  | one => exact ofN 1 rfl (hchoice (.inl rfl))
  | two => exact ofN 2 rfl (hchoice (.inr (.inl rfl)))
  | three => exact ofN 3 rfl (hchoice (.inr (.inr rfl)))
  | none => exact ofOk [] List.nodup_nil nofun (Nat.le_refl _) nofun
  | all => exact ofOk _ hothNodup (fun _ h => h) (Nat.le_refl _) nofun
  | eachQuorum =>
    have h := hoth ▸ sublist_flatten_map dcs _ (fun p => p.2.nodes.filter (· ≠ local_)) fun p =>
      List.take_sublist (if p.1 = localDc then p.2.nodes.length / 2 else p.2.nodes.length / 2 + 1) _
    exact ofOk _ (h.nodup hothNodup) (fun _ hx => h.subset hx) (Nat.zero_le _) nofun
  | localQuorum =>
    obtain ⟨c, hc⟩ := hl
    simp only [selectNodes, hc]
    have h := (List.take_sublist (c.nodes.length / 2) _).trans
      ((sublist_allNodes dcs _ (getDc_mem dcs localDc c hc)).filter (· ≠ local_))
    refine ofOk _ (h.nodup hothNodup) (fun _ hx => h.subset hx) ?_ nofun
    simp only [required, hc, List.length_take]
    exact Nat.le_min.2 ⟨Nat.le_refl _, half_le_length_filter_ne _ _ (nodup_of_mem dcs wf _ (getDc_mem dcs localDc c hc))⟩
  | quorum =>
    obtain ⟨hnp, hok⟩ := quorumLoop_spec (total + 1) (dcs.map fun p => p.2.nodes.filter (· ≠ local_)) [] (total / 2)
    refine ⟨rfl, hnp, fun ns hns => ?_⟩
    obtain ⟨hlen, rest, hperm⟩ := hok ns hns
    rw [List.nil_append, ← hoth] at hperm
    exact (ofOk ns (List.nodup_append.1 (hperm.nodup_iff.2 hothNodup)).1
      (fun x hx => hperm.mem_iff.1 (List.mem_append_left _ hx)) hlen nofun).ok ns rfl

/-- **select_sound**: a successful selection has no duplicates, does not contain the local node, contains only nodes of
the installed layout, and is at least as large as the level requires (exactly `n` for
One/Two/Three); the layout itself is never changed by a selection.  `hchoice` is `ChoiceOk` written out. -/
theorem select_sound (local_ localDc total : Nat) (dcs : Dcs) (lvl : Level) (choice : List Nat)
    (wf : WF dcs) (hl : ∃ c, getDc dcs localDc = some c)
    (hchoice : ∀ n, (lvl = .one → n = 1) → (lvl = .two → n = 2) → (lvl = .three → n = 3) →
      (lvl = .one ∨ lvl = .two ∨ lvl = .three) → GoodChoice dcs n choice) :
    layoutOf (selectNodes local_ localDc total dcs lvl choice).2 = layoutOf dcs ∧
    (selectNodes local_ localDc total dcs lvl choice).1 ≠ .panic ∧
    ∀ ns, (selectNodes local_ localDc total dcs lvl choice).1 = .ok ns →
      ns.Nodup ∧ local_ ∉ ns ∧ (∀ x ∈ ns, x ∈ allNodes dcs) ∧
      ns.length ≥ required lvl local_ localDc total dcs ∧
      ((lvl = .one ∨ lvl = .two ∨ lvl = .three) → ns.length = required lvl local_ localDc total dcs) := by
  have h := select_spec local_ localDc total dcs lvl choice wf hl fun h4 =>
    .inr (hchoice _ (fun e => e ▸ rfl) (fun e => e ▸ rfl) (fun e => e ▸ rfl) h4)
  exact ⟨h.layout, h.noPanic, h.ok⟩

/-- Answers of the actor to a list of requests. -/
def runGets (a : Actor) : List Get → List Res
  | [] => []
  | g :: gs => (getNodes a g.lvl g.fresh g.choice).1 :: runGets (getNodes a g.lvl g.fresh g.choice).2 gs

/-- Actor invariant between two membership updates. -/
structure ActorInv (a : Actor) (dcs0 : Dcs) : Prop where
  layout : layoutOf a.dcs = layoutOf dcs0
  cache : ∀ lvl ns, cacheGet a.cache lvl = some ns → ∀ x ∈ ns, x ∈ allNodes dcs0

theorem cacheGet_cons_filter (cache : List (Level × List Nat)) (l l' : Level) (ns : List Nat) :
    cacheGet ((l, ns) :: cache.filter (fun p => p.1 ≠ l)) l' =
      if l = l' then some ns else cacheGet cache l' := by
  rw [cacheGet]
  split
  · rfl
  · -- entries of another level are untouched by the filter
    induction cache with
    | nil => rfl
    | cons p ps ih =>
      rw [List.filter_cons]
      split
      · rw [cacheGet, cacheGet, ih]
      · rename_i h
        have hp : p.1 = l := by simpa using h
        rw [ih, cacheGet, if_neg (hp ▸ ‹¬l = l'›)]

theorem getNodes_inv (a : Actor) (dcs0 : Dcs) (wf : WF dcs0) (hl : ∃ c, getDc dcs0 a.localDc = some c)
    (inv : ActorInv a dcs0) (g : Get) (hch : ChoiceOk dcs0 g) :
    (∀ ns, (getNodes a g.lvl g.fresh g.choice).1 = .ok ns → ∀ x ∈ ns, x ∈ allNodes dcs0) ∧
    ActorInv (getNodes a g.lvl g.fresh g.choice).2 dcs0 ∧
    (getNodes a g.lvl g.fresh g.choice).2.localDc = a.localDc := by
  -- `a.dcs` has the layout of `dcs0`: it is well-formed and the choice is good for it too
  obtain ⟨s1, _, s3⟩ := select_sound a.local_ a.localDc a.total a.dcs g.lvl g.choice
    ⟨ids_of_layout _ _ inv.layout ▸ wf.ids, allNodes_of_layout _ _ inv.layout ▸ wf.addrs⟩
    ((getDc_isSome_of_layout _ _ inv.layout _).2 hl) fun n h1 h2 h3 h4 =>
      have gc := hch n h1 h2 h3 h4
      ⟨gc.nodup, gc.len, fun d hd => (getDc_isSome_of_layout _ _ inv.layout d).2 (gc.present d hd)⟩
  unfold getNodes
  split
  · rename_i cached hc
    refine ⟨fun ns hns => ?_, inv, rfl⟩
    cases hns
    split at hc
    · exact inv.cache g.lvl _ hc
    · cases hc
  · dsimp only
    generalize selectNodes a.local_ a.localDc a.total a.dcs g.lvl g.choice = r at s1 s3
    obtain ⟨res, dcs'⟩ := r
    have hsub : ∀ ns, res = .ok ns → ∀ x ∈ ns, x ∈ allNodes dcs0 := fun ns hns x hx =>
      allNodes_of_layout a.dcs dcs0 inv.layout ▸ (s3 ns hns).2.2.1 x hx
    cases res with
    | ok ns0 =>
      refine ⟨hsub, ⟨s1.trans inv.layout, fun lvl ns hget => ?_⟩, rfl⟩
      rw [cacheGet_cons_filter] at hget
      split at hget
      · cases hget; exact hsub _ rfl
      · exact inv.cache lvl ns hget
    | _ => exact ⟨nofun, ⟨s1.trans inv.layout, inv.cache⟩, rfl⟩

/-- **after_update_only_current**: after a membership update installed the layout `dcs0`, every
later answer of the actor — freshly computed or served from its cache, whatever was selected in
between — consists of nodes of `dcs0` only: nodes, and whole data centres, that left are never
selected again.  `setNodes_inv`: `inv` holds right after `setNodes`, which rebuilds the map. -/
theorem after_update_only_current (a : Actor) (dcs0 : Dcs) (wf : WF dcs0)
    (hl : ∃ c, getDc dcs0 a.localDc = some c) (inv : ActorInv a dcs0)
    (gets : List Get) (hch : ∀ g ∈ gets, ChoiceOk dcs0 g) :
    ∀ r ∈ runGets a gets, ∀ ns, r = .ok ns → ∀ x ∈ ns, x ∈ allNodes dcs0 := by
  induction gets generalizing a with
  | nil => exact nofun
  | cons g gs ih =>
    obtain ⟨hg, hgs⟩ := List.forall_mem_cons.1 hch
    obtain ⟨h1, h2, h3⟩ := getNodes_inv a dcs0 wf hl inv g hg
    exact List.forall_mem_cons.2 ⟨h1, ih _ (h3 ▸ hl) h2 hgs⟩

/-- The state right after `SetNodes` satisfies the actor invariant (empty cache). -/
theorem setNodes_inv (a : Actor) (layout : List (Nat × List Nat)) :
    ActorInv (setNodes a layout) (setNodes a layout).dcs :=
  ⟨rfl, fun _ _ h => nomatch h⟩

/-- Defect D11 of the pinned tree (fixed): on a single data centre `{local, 11, 12}`, `One` followed
by `Two` failed with `NotEnoughNodes {live: 1, required: 2}` although two other live nodes exist:
the extra-node loop skips a candidate (local or already selected) without trying the next one. -/
theorem extra_skip_counterexample :
    let dcs : Dcs := [(0, ⟨0, [1, 11, 12]⟩)]
    let r1 := selectNLegacy 1 0 1 3 dcs []
    let r2 := selectNLegacy 1 0 2 3 r1.2 []
    r1.1 = .ok [11] ∧ r2.1 = .notEnough 1 2 ∧
    (selectN 1 0 2 3 (selectN 1 0 1 3 dcs []).2 []).1 = .ok [12, 11] := by
  decide

/-- Defect D10 of the pinned tree: a data centre that left the membership stays in the map and is
still selected (`All` after an update that dropped data centre 1); the current `setNodes` rebuilds
the map. -/
theorem legacy_dc_leak :
    let a0 := setNodesLegacy { local_ := 1, localDc := 0 } [(0, [1, 10]), (1, [11])]
    let a1 := setNodesLegacy a0 [(0, [1, 10])]
    let b1 := setNodes (setNodes { local_ := 1, localDc := 0 } [(0, [1, 10]), (1, [11])]) [(0, [1, 10])]
    (getNodes a1 .all false []).1 = .ok [10, 11] ∧ (getNodes b1 .all false []).1 = .ok [10] := by
  decide

example : WF [(0, ⟨2, [1, 10, 11]⟩), (1, ⟨1, [20, 21]⟩)] ∧
    GoodChoice [(0, ⟨2, [1, 10, 11]⟩), (1, ⟨1, [20, 21]⟩)] 1 [1] :=
  ⟨⟨by decide, by decide⟩, by decide, rfl, List.forall_mem_singleton.2 ⟨_, rfl⟩⟩

end Datacake.C15
