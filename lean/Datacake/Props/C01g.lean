/-
C01, an exchange whose document fetch the peer refuses (`Cluster.repairFetchFail`: the peer's
`fetch_docs` is answered with an error).  What the convergence argument needs from such an exchange:

* it teaches the repairing node nothing that is not true - its set moves by the removal half of the
  difference only (`fetchFail_sets`), every other node is untouched;
* it does NOT count as a synchronisation: the tracker entry for the peer keeps its value
  (`fetchFail_tracker_kept`), so the skip rule of the poller (Props/C01b `skip_safe`: skipping is
  safe when the tracker equals the peer's stamp BECAUSE a recorded stamp means the snapshot was
  learnt) is not handed a stamp whose snapshot was never learnt, and the next poll asks again
  (`fetchFail_then_not_skipped`).

A change that records the peer's stamp after a refused fetch (seeded change C01-rAm1) breaks the
second point: the correspondence run shows `synced` / `skipped` where the model says `.failed` /
`.synced`, and the quiescent exchanges do not converge.

The three hypotheses `hex`, `htr`, `hfetch` that every theorem here carries are
`Cluster.repairFetches c j i = true` written out: the poll is not skipped and the difference has
modifications, so a fetch is made at all.
-/
import Datacake.Props.C01e

namespace Datacake.C01d
open Datacake.Lww Datacake.OrSwot Datacake.Keyspace Datacake.Storage Datacake.Cluster Datacake.C01 Datacake.C05

theorem repairFetchFail_eq (c : Cluster) (j i : Nat)
    (hex : (getNode c i).exists_ = true)
    (htr : ((getNode c j).tracker.getD i none == some (getNode c i).change) = false)
    (hfetch : (diff (getNode (touch c j) j).ks.set (getNode c i).ks.set).1.isEmpty = false) :
    repairFetchFail c j i =
      ((applyRemovals (touch c j) j (diff (getNode (touch c j) j).ks.set (getNode c i).ks.set).2).1, .failed) := by
  unfold repairFetchFail
  simp only [hex, Bool.not_true, Bool.false_eq_true, if_false, htr, hfetch]

theorem fetchFail_handled (c : Cluster) (j i : Nat) (h : j < c.nodes.length)
    (hex : (getNode c i).exists_ = true)
    (htr : ((getNode c j).tracker.getD i none == some (getNode c i).change) = false)
    (hfetch : (diff (getNode (touch c j) j).ks.set (getNode c i).ks.set).1.isEmpty = false) :
    KsUpd j (handleAt (getNode c j).ks 1 (getNode c j).failNext
        (.mdel (diff (getNode (touch c j) j).ks.set (getNode c i).ks.set).2)).1 c (repairFetchFail c j i).1 ∧
    (getNode (repairFetchFail c j i).1 j).tracker = (getNode c j).tracker := by
  rw [repairFetchFail_eq c j i hex htr hfetch]
  generalize (diff (getNode (touch c j) j).ks.set (getNode c i).ks.set).2 = removed
  obtain ⟨hk, hf, ht⟩ := touch_fields c j j
  have H := applyRemovals_handled (touch c j) j removed (touch_length c j ▸ h)
  rw [hk, hf] at H
  exact ⟨(touch_upd c j).trans H.toKsUpd, H.tracker.trans ht⟩

/-- **fetchFail_sets**: the repairing node applied the removal half of the difference, nobody else moved. -/
theorem fetchFail_sets (c : Cluster) (j i : Nat) (h : j < c.nodes.length)
    (hf : (getNode c j).failNext = false)
    (hex : (getNode c i).exists_ = true)
    (htr : ((getNode c j).tracker.getD i none == some (getNode c i).change) = false)
    (hfetch : (diff (getNode (touch c j) j).ks.set (getNode c i).ks.set).1.isEmpty = false) (x : Nat) :
    absSet (repairFetchFail c j i).1 x =
      if x = j then applyAll Cluster.F (absSet c j)
        (removalOps (absSet c j) (diff (getNode (touch c j) j).ks.set (getNode c i).ks.set).2)
      else absSet c x := by
  rw [(fetchFail_handled c j i h hex htr hfetch).1.sets x, hf, handleAt_set]
  simp only [requestOps, List.map_map]
  rfl

/-- **fetchFail_reports_failure**: such an exchange is reported as failed - never as synchronised. -/
theorem fetchFail_reports_failure (c : Cluster) (j i : Nat)
    (hex : (getNode c i).exists_ = true)
    (htr : ((getNode c j).tracker.getD i none == some (getNode c i).change) = false)
    (hfetch : (diff (getNode (touch c j) j).ks.set (getNode c i).ks.set).1.isEmpty = false) :
    (repairFetchFail c j i).2 = .failed := by
  rw [repairFetchFail_eq c j i hex htr hfetch]

/-- **fetchFail_tracker_kept**: an exchange whose fetch was refused records nothing. -/
theorem fetchFail_tracker_kept (c : Cluster) (j i : Nat) (h : j < c.nodes.length)
    (hex : (getNode c i).exists_ = true)
    (htr : ((getNode c j).tracker.getD i none == some (getNode c i).change) = false)
    (hfetch : (diff (getNode (touch c j) j).ks.set (getNode c i).ks.set).1.isEmpty = false) (x : Nat) :
    (getNode (repairFetchFail c j i).1 x).tracker = (getNode c x).tracker := by
  obtain ⟨H, ht⟩ := fetchFail_handled c j i h hex htr hfetch
  by_cases hx : x = j
  · rw [hx]; exact ht
  · rw [H.other x hx]

/-- **fetchFail_then_not_skipped**: after a refused fetch the poller does not skip the peer as long as
the peer's change stamp is what it was: the very next poll asks for the state again. -/
theorem fetchFail_then_not_skipped (c : Cluster) (j i : Nat) (h : j < c.nodes.length) (hji : i ≠ j)
    (hex : (getNode c i).exists_ = true)
    (htr : ((getNode c j).tracker.getD i none == some (getNode c i).change) = false)
    (hfetch : (diff (getNode (touch c j) j).ks.set (getNode c i).ks.set).1.isEmpty = false) :
    let c' := (repairFetchFail c j i).1
    ((getNode c' j).tracker.getD i none == some (getNode c' i).change) = false ∧ (getNode c' i).exists_ = true := by
  obtain ⟨H, ht⟩ := fetchFail_handled c j i h hex htr hfetch
  simp only [ht, H.other i hji]
  exact ⟨htr, hex⟩

/-- **fetchFail_good**: set and store of every node still agree: the half that ran is a removal request
like any other. -/
theorem fetchFail_good (c : Cluster) (j i : Nat) (h : j < c.nodes.length)
    (hf : (getNode c j).failNext = false) (hg : NodesGood c)
    (hex : (getNode c i).exists_ = true)
    (htr : ((getNode c j).tracker.getD i none == some (getNode c i).change) = false)
    (hfetch : (diff (getNode (touch c j) j).ks.set (getNode c i).ks.set).1.isEmpty = false)
    (hvr : ∀ p ∈ (diff (absSet c j) (absSet c i)).2, ValidStamp p.2) :
    NodesGood (repairFetchFail c j i).1 := by
  refine ksUpd_good (fetchFail_handled c j i h hex htr hfetch).1 hg ?_
  rw [hf, (touch_fields c j j).1, handleAt_working]
  exact C02.good_handle Cluster.F _ (reqOf 1 (.mdel _)) (hg j) hvr

/-- Node 1 has applied a put of document 7 (stamp 5 000 000 s, origin 1) that node 0 lacks. -/
def exC : Cluster := (applyAt { nodes := [{}, {}] } 1 0 (.put (7, 5000000 * 4294967296 + 1, [1, 2, 3]))).1

example : (getNode exC 1).exists_ = true
    ∧ ((getNode exC 0).tracker.getD 1 none == some (getNode exC 1).change) = false
    ∧ (diff (getNode (touch exC 0) 0).ks.set (getNode exC 1).ks.set).1.isEmpty = false := by decide

example : (repairFetchFail exC 0 1).2 = .failed := by rfl
example : (repair exC 0 1 true).2 = .synced 1 0 := by rfl

end Datacake.C01d
