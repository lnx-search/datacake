/-
C17, the reference model as a state machine over call histories.  `Props/C17.lean` has the one-step
facts; this file states what "a simple map-based reference model" means for EVERY sequence of
storage calls the contract allows, so that the thing the three backends are compared with on every
run is itself pinned down:

* `WF` is an invariant of every reachable store (`run_wf`).  The one contract clause that is
  needed is explicit: `remove_tombstones` is given ids that are tombstones (`Legal`) - the code path
  (`purge`) only ever passes such ids; a backend may do anything otherwise.
* the proof: every call is a list of single-cell writes (`Op.writes`) to the one keyspace it names, on
  both sides (`step_ks`, `absStep_row`): `kwrite` on the keyspace record, `rupd` on the abstract row.
-/
import Datacake.Props.C17
import Datacake.Basic.ListLemmas

namespace Datacake.C17b
open Datacake.Storage Datacake.C17

inductive Cell where
  | absent
  | dead (ts : Nat)
  | live (ts : Nat) (bytes : List Nat)
deriving DecidableEq, Repr

/-- keyspace → id → cell -/
abbrev Abs := Nat → Nat → Cell

inductive Op where
  | put (k id ts : Nat) (bytes : List Nat)
  | multiPut (k : Nat) (docs : List (Nat × Nat × List Nat))
  | mark (k id ts : Nat)
  | markMany (k : Nat) (docs : List (Nat × Nat))
  | remove (k : Nat) (ids : List Nat)

def upd (a : Abs) (k id : Nat) (c : Cell) : Abs :=
  fun k' id' => if k' = k ∧ id' = id then c else a k' id'

def absStep (a : Abs) : Op → Abs
  | .put k id ts b => upd a k id (.live ts b)
  | .multiPut k docs => docs.foldl (fun a d => upd a k d.1 (.live d.2.1 d.2.2)) a
  | .mark k id ts => upd a k id (.dead ts)
  | .markMany k docs => docs.foldl (fun a d => upd a k d.1 (.dead d.2)) a
  | .remove k ids => ids.foldl (fun a id => upd a k id .absent) a

def step (s : Store) : Op → Store
  | .put k id ts b => put s k id ts b
  | .multiPut k docs => multiPut s k docs
  | .mark k id ts => markTombstone s k id ts
  | .markMany k docs => markManyTombstone s k docs
  | .remove k ids => removeTombstones s k ids

/-- The contract clause: `remove_tombstones` names tombstones (or ids that hold nothing). -/
def Legal (a : Abs) : Op → Prop
  | .remove k ids => ∀ id ∈ ids, ∀ ts b, a k id ≠ .live ts b
  | _ => True

/-- What the reference model holds for (keyspace, id), read off its two association lists. -/
def cell (s : Store) (k id : Nat) : Cell :=
  match aget (s.ks k).rows id with
  | none => .absent
  | some (ts, true) => .dead ts
  | some (ts, false) =>
    match aget (s.ks k).data id with
    | some b => .live ts b
    | none => .absent

def Op.ks : Op → Nat
  | .put k _ _ _ => k
  | .multiPut k _ => k
  | .mark k _ _ => k
  | .markMany k _ => k
  | .remove k _ => k

def Op.writes : Op → List (Nat × Cell)
  | .put _ id ts b => [(id, .live ts b)]
  | .multiPut _ docs => docs.map fun d => (d.1, .live d.2.1 d.2.2)
  | .mark _ id ts => [(id, .dead ts)]
  | .markMany _ docs => docs.map fun d => (d.1, .dead d.2)
  | .remove _ ids => ids.map fun id => (id, .absent)

def rupd (r : Nat → Cell) (w : Nat × Cell) : Nat → Cell :=
  fun id => if id = w.1 then w.2 else r id

theorem upd_row (a : Abs) (k id : Nat) (c : Cell) (k' : Nat) :
    upd a k id c k' = if k' = k then rupd (a k) (id, c) else a k' := by
  funext id'
  by_cases h : k' = k <;> simp [upd, rupd, h]

theorem absStep_row (a : Abs) (op : Op) (k : Nat) :
    absStep a op k = if k = op.ks then op.writes.foldl rupd (a op.ks) else a k := by
  have h : absStep a op = op.writes.foldl (fun a w => upd a op.ks w.1 w.2) a := by
    cases op <;> simp only [absStep, Op.writes, Op.ks, List.foldl_map, List.foldl_cons, List.foldl_nil]
  rw [h]
  exact foldl_at (fun a : Abs => a) rupd (fun _ _ _ => upd_row ..) op.writes a k

/-- The cells a keyspace record holds: `cell s k` is `kcell (s.ks k)`.  `cell` can only be asked of a
store; `kcell_kwrite` and `WFks.data_none` speak of a record on its own, hence the same body again. -/
def kcell (x : Keyspace) (id : Nat) : Cell :=
  match aget x.rows id with
  | none => .absent
  | some (ts, true) => .dead ts
  | some (ts, false) =>
    match aget x.data id with
    | some b => .live ts b
    | none => .absent

/-- A write to a keyspace record: what `put`, `mark_as_tombstone` and `remove_tombstones` do to it
for one id. -/
def kwrite (x : Keyspace) (w : Nat × Cell) : Keyspace :=
  match w.2 with
  | .live ts b => { rows := aset x.rows w.1 (ts, false), data := aset x.data w.1 b }
  | .dead ts => { rows := aset x.rows w.1 (ts, true), data := aerase x.data w.1 }
  | .absent => { x with rows := aerase x.rows w.1 }

theorem step_ks (s : Store) (op : Op) (k' : Nat) :
    (step s op).ks k' = if k' = op.ks then op.writes.foldl kwrite (s.ks op.ks) else s.ks k' := by
  cases op with
  | put k id ts b | mark k id ts => exact ks_setKs ..
  | multiPut k docs | markMany k docs =>
    -- the fold of the single calls, started from `s.touch k`, which has the records of `s`
    simp only [Op.writes, Op.ks, List.foldl_map]
    rw [← touch_ks s k k, ← touch_ks s k k']
    refine foldl_at Store.ks _ (fun _ _ _ => ?_) docs _ _
    exact ks_setKs ..
  | remove k ids => simp only [Op.writes, List.foldl_map]; exact ks_removeTombstones ..

theorem kcell_kwrite (x : Keyspace) (w : Nat × Cell) : kcell (kwrite x w) = rupd (kcell x) w := by
  obtain ⟨id, c⟩ := w
  funext id'
  unfold kcell rupd
  cases c <;> by_cases h : id' = id <;> simp [kwrite, aget_aset, aget_aerase, h]

theorem cell_step (s : Store) (op : Op) : cell (step s op) = absStep (cell s) op := by
  funext k
  show kcell ((step s op).ks k) = _
  rw [absStep_row, step_ks]
  split
  next hk => subst hk; exact (List.foldl_hom kcell fun x w => (kcell_kwrite x w).symm).symm
  next => rfl

def keys {α : Type} (m : List (Nat × α)) : List Nat := m.map (·.1)

/-- a document exactly for the live rows; one entry per id in both lists -/
structure WFks (ks : Keyspace) : Prop where
  rowsNodup : (keys ks.rows).Nodup
  dataNodup : (keys ks.data).Nodup
  docIffLive : ∀ id, (aget ks.data id).isSome = true ↔ ∃ ts, aget ks.rows id = some (ts, false)

def WF (s : Store) : Prop := ∀ k, WFks (s.ks k)

theorem WFks.data_none {x : Keyspace} (w : WFks x) {id : Nat} (h : ∀ ts b, kcell x id ≠ .live ts b) :
    aget x.data id = none := by
  cases hd : aget x.data id with
  | none => rfl
  | some b =>
    obtain ⟨ts, hts⟩ := (w.docIffLive id).1 (by simp [hd])
    exact absurd (by simp [kcell, hts, hd]) (h ts b)

/-- Erasing a row is where the contract is needed: no document under that id. -/
theorem WFks.write {x : Keyspace} (w : WFks x) (id : Nat) (c : Cell) (hl : c = .absent → aget x.data id = none) :
    WFks (kwrite x (id, c)) := by
  cases c with
  | live ts b =>
    exact ⟨nodup_keys_aset w.rowsNodup, nodup_keys_aset w.dataNodup, Keyspace.dataOk_put w.docIffLive⟩
  | dead ts =>
    exact ⟨nodup_keys_aset w.rowsNodup, nodup_keys_aerase w.dataNodup, Keyspace.dataOk_tomb w.docIffLive⟩
  | absent =>
    exact ⟨nodup_keys_aerase w.rowsNodup, w.dataNodup, Keyspace.dataOk_eraseRow w.docIffLive (hl rfl)⟩

theorem wfks_empty : WFks {} := ⟨List.nodup_nil, List.nodup_nil, Keyspace.dataOk_empty⟩

theorem wf_step (s : Store) (op : Op) (hwf : WF s) (hl : Legal (cell s) op) : WF (step s op) := by
  intro k'
  rw [step_ks]
  split
  case isFalse => exact hwf k'
  case isTrue =>
    have w := hwf op.ks
    cases op with
    | put k id ts b => exact w.write id (.live ts b) nofun
    | mark k id ts => exact w.write id (.dead ts) nofun
    | multiPut k docs | markMany k docs =>
      simp only [Op.writes, List.foldl_map]
      exact List.foldlRecOn docs _ w fun x hx d _ => hx.write _ _ nofun
    | remove k ids =>
      -- the ids hold no document, and erasing rows leaves the documents as they are
      have hd : ∀ id ∈ ids, aget (s.ks k).data id = none := fun id hid => w.data_none (hl id hid)
      simp only [Op.writes, List.foldl_map]
      exact (List.foldlRecOn ids _ (motive := fun x => WFks x ∧ x.data = (s.ks k).data) ⟨w, rfl⟩
        fun x hx id hid => ⟨hx.1.write id .absent fun _ => hx.2 ▸ hd id hid, hx.2⟩).1

def run (ops : List Op) : Store := ops.foldl step {}
def absRun (ops : List Op) : Abs := ops.foldl absStep (fun _ _ => .absent)

/-- every call of the history respects the contract in the state it is made in -/
def LegalRun : Abs → List Op → Prop
  | _, [] => True
  | a, op :: rest => Legal a op ∧ LegalRun (absStep a op) rest

/-- One call: invariant and refinement are preserved. -/
theorem step_refines (s : Store) (a : Abs) (op : Op) (hwf : WF s) (h : ∀ k id, cell s k id = a k id)
    (hl : Legal a op) : WF (step s op) ∧ ∀ k id, cell (step s op) k id = absStep a op k id := by
  obtain rfl : cell s = a := funext fun k => funext (h k)
  exact ⟨wf_step s op hwf hl, fun k id => by rw [cell_step]⟩

/-- Along every history, legal or not, the cells follow the abstract map. -/
theorem cell_run (ops : List Op) (s : Store) : cell (ops.foldl step s) = ops.foldl absStep (cell s) :=
  (List.foldl_hom cell fun s op => (cell_step s op).symm).symm

theorem wf_run (ops : List Op) (s : Store) (hwf : WF s) (hl : LegalRun (cell s) ops) : WF (ops.foldl step s) := by
  induction ops generalizing s with
  | nil => exact hwf
  | cons op rest ih => exact ih _ (wf_step s op hwf hl.1) (cell_step s op ▸ hl.2)

/-- **refines**: after ANY history of calls the contract allows, the reference model holds, for every
keyspace and id, exactly what the abstract map holds - and is well-formed. -/
theorem refines (ops : List Op) (hl : LegalRun (fun _ _ => .absent) ops) :
    WF (run ops) ∧ ∀ k id, cell (run ops) k id = absRun ops k id :=
  ⟨wf_run ops {} (fun _ => wfks_empty) hl, fun k id => congrFun (congrFun (cell_run ops {}) k) id⟩

theorem run_wf (ops : List Op) (hl : LegalRun (fun _ _ => .absent) ops) : WF (run ops) := (refines ops hl).1

/-- **get_abs**: `get` returns the live document of the cell, or nothing. -/
theorem get_abs (s : Store) (k id : Nat) (hwf : WF s) :
    get s k id = match cell s k id with | .live ts b => some (id, ts, b) | _ => none := by
  unfold Storage.get cell
  cases hd : aget (s.ks k).data id with
  | none =>
    simp only [hd]
    rcases aget (s.ks k).rows id with _ | ⟨ts, _ | _⟩ <;> rfl
  | some b =>
    obtain ⟨ts, hts⟩ := ((hwf k).docIffLive id).1 (by simp [hd])
    simp [hts, hd]

/-- **iter_abs**: `iter_metadata` lists `(id, ts, flag)` exactly for the rows the model holds … -/
theorem iter_abs (s : Store) (k : Nat) (hwf : WF s) (id ts : Nat) (t : Bool) :
    (id, ts, t) ∈ iterMetadata s k ↔ aget (s.ks k).rows id = some (ts, t) := by
  rw [← mem_iff_aget _ (hwf k).rowsNodup, iterMetadata, List.map_id'' (fun _ => rfl)]

/-- … and every id once. -/
theorem iter_nodup (s : Store) (k : Nat) (hwf : WF s) : ((iterMetadata s k).map (·.1)).Nodup := by
  rw [iterMetadata, List.map_map]
  exact (hwf k).rowsNodup

/-- `multi_get` is `get` per requested id, in request order. -/
theorem multi_get_is_get (s : Store) (k : Nat) (ids : List Nat) : multiGet s k ids = ids.filterMap (get s k) := rfl

theorem isolation_from (ops : List Op) (k : Nat) {a a' : Abs} (h : a k = a' k) :
    (ops.foldl absStep a) k = ((ops.filter (fun o => o.ks == k)).foldl absStep a') k := by
  induction ops generalizing a a' with
  | nil => exact h
  | cons op rest ih =>
    rw [List.foldl_cons, List.filter_cons]
    split
    next hk => obtain rfl := beq_iff_eq.1 hk; exact ih (by rw [absStep_row, absStep_row, h])
    next hk => exact ih (by rw [absStep_row, if_neg (Ne.symm (by simpa using hk)), h])

/-- **history_isolation**: after ANY history, what a keyspace holds is what the calls that NAMED it
produce on their own - the calls on every other keyspace, in whatever number and order they were
interleaved, might as well not have happened.  A statement about abstract runs: `refines` carries the
left side over to the reference model's observations for a legal `ops`; that the filtered history is
legal too is not shown here. -/
theorem history_isolation (ops : List Op) (k id : Nat) :
    absRun ops k id = absRun (ops.filter (fun o => o.ks == k)) k id :=
  congrFun (isolation_from ops k rfl) id

/-! ### non-vacuity: a legal history with a bulk put naming an id twice, a tombstone, a purge -/

def exOps : List Op :=
  [.multiPut 0 [(1, 10, [7]), (2, 11, []), (1, 12, [8, 9])], .mark 0 2 20, .put 1 1 5 [1], .remove 0 [2]]

def exA : Abs := absStep (absStep (absStep (fun _ _ => .absent) (.multiPut 0 [(1, 10, [7]), (2, 11, []), (1, 12, [8, 9])])) (.mark 0 2 20)) (.put 1 1 5 [1])

example : LegalRun (fun _ _ => .absent) exOps := by
  refine ⟨trivial, trivial, trivial, ?_, trivial⟩
  intro id hid ts b
  obtain rfl := List.mem_singleton.1 hid
  show exA 0 2 ≠ Cell.live ts b
  have h : exA 0 2 = Cell.dead 20 := by decide
  rw [h]
  nofun

example : get (run exOps) 0 1 = some (1, 12, [8, 9]) ∧ get (run exOps) 0 2 = none
    ∧ iterMetadata (run exOps) 0 = [(1, 12, false)] ∧ get (run exOps) 1 1 = some (1, 5, [1]) := by decide

end Datacake.C17b
