/-
C06, last clause: "... and the local write is still in place and still replicated later".

The later replication of a write is the batch of the task distributor (`execute_batch`): every
live member is sent `apply_batch` (one bulk request per keyspace), whatever happened to the write at
its consistency level.  `Cluster.broadcast` is what the driver runs for a distributor tick.
-/
import Datacake.Props.C06b

namespace Datacake.C06
open Datacake.Lww Datacake.OrSwot Datacake.Storage Datacake.Keyspace Datacake.Cluster

/-- The requests of a distributor batch are bulk requests (`BatchPayload`: multi-put / multi-del). -/
def IsBulk : Issued → Prop
  | .mput _ => True
  | .mdel _ => True
  | _ => False

/-- A member that answers: it accepts connections, its keyspace actor is not parked inside a hung
storage call, and its next storage call returns and succeeds. -/
def Responsive (c : Cluster) (down hangNext stuck : List Nat) (t : Nat) : Prop :=
  down.contains t = false ∧ stuck.contains t = false ∧ hangNext.contains t = false ∧
    (getNode c t).failNext = false

theorem replicate_responsive (c : Cluster) (down hangNext stuck : List Nat) (t : Nat) (iss : Issued)
    (hr : Responsive c down hangNext stuck t) : (replicate c down hangNext stuck t iss).2.2 = .ack := by
  obtain ⟨h1, h2, h3, h4⟩ := hr
  rw [replicate, h1, h2, h3]
  show (if (applyAt c t 0 iss).2 = true then Reply.ack else .err) = .ack
  rw [applyAt_snd, h4, handleAt_working]
  rfl

theorem replicate_stuck (c : Cluster) (down hangNext stuck : List Nat) (t : Nat) (iss : Issued) (x : Nat)
    (hx : x ≠ t) : (replicate c down hangNext stuck t iss).2.1.contains x = stuck.contains x := by
  -- only a request that hangs adds to `stuck`, and it adds `t`
  rcases replicate_cases c down hangNext stuck t iss with h | ⟨_, _, h⟩ | h <;> rw [h]
  rw [List.contains_cons, beq_false_of_ne hx, Bool.false_or]

theorem replicateAll_responsive (down hangNext : List Nat) (iss : Issued) :
    ∀ (targets : List Nat) (c : Cluster) (stuck : List Nat), targets.Nodup →
    ∀ t ∈ targets, Responsive c down hangNext stuck t →
      (t, Reply.ack) ∈ targets.zip (replicateAll c down hangNext stuck targets iss).2.2 := by
  intro targets
  induction targets with
  | nil => intro c stuck _ t ht; simp at ht
  | cons t0 ts ih =>
    intro c stuck hnd t ht hr
    rw [replicateAll]
    simp only [List.zip_cons_cons]
    rw [List.nodup_cons] at hnd
    rcases List.mem_cons.1 ht with rfl | hts
    · rw [replicate_responsive c down hangNext stuck t iss hr]
      exact List.mem_cons_self ..
    · have hne : t ≠ t0 := fun e => hnd.1 (e ▸ hts)
      obtain ⟨h1, h2, h3, h4⟩ := hr
      -- the request to `t0` leaves `t` as it was
      exact List.mem_cons_of_mem _ (ih _ _ hnd.2 t hts
        ⟨h1, (replicate_stuck c down hangNext stuck t0 iss t hne).trans h2, h3,
          (replicate_only c down hangNext stuck t0 iss).other t hne ▸ h4⟩)

/-- **broadcast_reaches_responsive** ("still replicated later"): after a tick of the distributor
every member that answers holds the batch (or newer records of its documents) - whichever of the other
members fail, refuse connections or stay silent. -/
theorem broadcast_reaches_responsive (c : Cluster) (down hangNext stuck : List Nat) (targets : List Nat)
    (iss : Issued) (hb : IsBulk iss) (hnd : targets.Nodup) (hlen : ∀ t ∈ targets, t < c.nodes.length)
    (hag : ∀ t ∈ targets, Agree (getNode c t).ks) (hfr : ∀ t ∈ targets, Fresh (getNode c t).ks.set iss)
    (t : Nat) (ht : t ∈ targets) (hr : Responsive c down hangNext stuck t) :
    HoldsAt (broadcast c down hangNext stuck targets iss).1 t iss :=
  (replicateAll_spec down hangNext iss targets c stuck hnd hlen hag hfr).2.2.2 (t, .ack)
    (replicateAll_responsive down hangNext iss targets c stuck hnd t ht hr) rfl

/-- The members a batch was not addressed to are untouched by it. -/
theorem broadcast_other (c : Cluster) (down hangNext stuck : List Nat) (targets : List Nat) (iss : Issued)
    (hnd : targets.Nodup) (hlen : ∀ t ∈ targets, t < c.nodes.length)
    (hag : ∀ t ∈ targets, Agree (getNode c t).ks) (hfr : ∀ t ∈ targets, Fresh (getNode c t).ks.set iss)
    (x : Nat) (hx : x ∉ targets) :
    getNode (broadcast c down hangNext stuck targets iss).1 x = getNode c x :=
  (replicateAll_spec down hangNext iss targets c stuck hnd hlen hag hfr).2.1 x hx

/-- **broadcastAll_step**: the next batch is sent to the members whatever the replies to this one were
(with fix D32 a tick ends at the deadline of its requests at the latest). -/
theorem broadcastAll_step (c : Cluster) (down hangNext stuck : List Nat) (targets : List Nat)
    (iss : Issued) (rest : List Issued) :
    broadcastAll c down hangNext stuck targets (iss :: rest) =
      broadcastAll (broadcast c down hangNext stuck targets iss).1 down
        (hangNext.filter (fun t => !(broadcast c down hangNext stuck targets iss).2.contains t))
        (broadcast c down hangNext stuck targets iss).2 targets rest := rfl

private def two : Cluster := { nodes := [{}, {}, {}] }
private def b1 : Issued := .mput [(6, 100, [1])]
private def b2 : Issued := .mput [(7, 200, [2])]

/-- Three nodes, the issuer 0 and the members 1 and 2; member 2's storage call never returns.  The
repaired distributor delivers the second batch to member 1; the pinned one never sent it: member 1
does not hold document 7. -/
theorem legacy_broadcast_blocks :
    (Storage.aget (getNode (broadcastAll two [] [2] [] [1, 2] [b1, b2]).1 1).ks.store.rows 7).isSome = true ∧
    (Storage.aget (getNode (broadcastAllLegacy two [] [2] [] [1, 2] [b1, b2]).1 1).ks.store.rows 7).isSome = false ∧
    (Storage.aget (getNode (broadcastAllLegacy two [] [2] [] [1, 2] [b1, b2]).1 1).ks.store.rows 6).isSome = true := by
  decide

/-- In that cluster member 1 is responsive and member 2 is not. -/
example : Responsive two [] [2] [] 1 ∧ ¬ Responsive two [] [2] [] 2 ∧ IsBulk b1 ∧ [1, 2].Nodup := by
  refine ⟨⟨rfl, rfl, rfl, rfl⟩, ?_, trivial, by decide⟩
  intro h
  exact absurd h.2.2.1 (by decide)

end Datacake.C06
