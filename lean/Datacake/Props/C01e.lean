/-
C01 / C02, the chain completed — along every run of the executable cluster model the invariants of
the refinement (`Props/C01d.lean`) are MAINTAINED, not assumed.

`xrun_refines` (C01d) assumes at every exchange that the peer's store agrees with its set.  Here that
is derived: every step of the cluster model rewrites one node's keyspace by `handle` calls of the
single-node model of `Props/C02.lean` (`applyAt_handled`, `repair_upd_ne`), which keep `C02.Good` for
requests with valid stamps — and the stamps an exchange handles are valid because they belong to
operations the peer has applied.
-/
import Datacake.Props.C01d
import Datacake.Props.C02b

namespace Datacake.C01d
open Datacake.Lww Datacake.OrSwot Datacake.Keyspace Datacake.Storage Datacake.Cluster Datacake.C01 Datacake.C05

/-- Every node's keyspace is `Good` in the sense of C02: set and store agree, cut-offs exact. -/
def NodesGood (c : Cluster) : Prop := ∀ x, C02.Good Cluster.F (getNode c x).ks

theorem ksUpd_good {j : Nat} {k : Node} {c c' : Cluster} (h : KsUpd j k c c')
    (hg : NodesGood c) (hk : C02.Good Cluster.F k) : NodesGood c' := by
  intro x
  rw [h.ks_eq x]
  split
  · exact hk
  · exact hg x

theorem fetched_origin' (store : Storage.Keyspace) (modified : List (Nat × Nat)) (d : Doc)
    (hd : d ∈ fetched store modified) : ∃ m ∈ modified, m.1 = d.1 :=
  let ⟨m, hm, h, _⟩ := mem_fetched.1 hd
  ⟨m, hm, h⟩

/-- The relation maintained between the executable cluster and the abstract one. -/
structure Inv (H : List Op) (c : Cluster) (a : Cl) : Prop where
  sim : ∀ x, (a x).s = absSet c x
  good : Good Cluster.F H a
  nodes : NodesGood c

/-- `Admissible` without the agreement of the peer's store, which `Inv` provides. -/
def Admissible' (H : List Op) (c : Cluster) : XStep → Prop
  | .request i _ iss => i < c.nodes.length ∧ (getNode c i).failNext = false ∧ (∀ o ∈ carried iss, o ∈ H)
  | .exchange j i _ => j < c.nodes.length ∧ (getNode c j).failNext = false ∧ j ≠ i

def AdmissibleRun' (H : List Op) : Cluster → List XStep → Prop
  | _, [] => True
  | c, s :: rest => Admissible' H c s ∧ AdmissibleRun' H (xstep c s) rest

theorem reqValid_of_carried (H : List Op) (hh : Hist Cluster.F H) (src : Nat) (iss : Issued)
    (hH : ∀ o ∈ carried iss, o ∈ H) : C02.ReqValid (reqOf src iss) := by
  cases iss with
  | put _ | del _ _ => exact hh.good.valid _ (hH _ List.mem_cons_self)
  | mput _ | mdel _ => exact fun d hd => hh.good.valid _ (hH _ (List.mem_map_of_mem hd))

/-- **xstep_inv**: one step of the executable cluster keeps the whole relation and is matched by
admissible abstract events. -/
theorem xstep_inv (H : List Op) (hh : Hist Cluster.F H) (c : Cluster) (a : Cl) (inv : Inv H c a)
    (s : XStep) (hadm : Admissible' H c s) :
    C01c.ValidRun Cluster.F H a (eventsOf c a s) ∧ Inv H (xstep c s) (C01c.run Cluster.F a (eventsOf c a s)) := by
  obtain ⟨hs, hg, hn⟩ := inv
  cases s with
  | request i src iss =>
    obtain ⟨hl, hf, hH⟩ := hadm
    obtain ⟨hv, hgood, hsets⟩ := xstep_refines H hh c a hg hs (.request i src iss) ⟨hl, hf, hH⟩
    refine ⟨hv, hsets, hgood, ksUpd_good (applyAt_handled c i src iss hl).toKsUpd hn ?_⟩
    rw [hf, handleAt_working]
    exact C02.good_handle Cluster.F _ _ (hn i) (reqValid_of_carried H hh src iss hH)
  | exchange j i rf =>
    obtain ⟨hl, hf, hji⟩ := hadm
    have hagree : Agree (getNode c i).ks := (hn i).agree
    obtain ⟨hv, hgood, hsets⟩ := xstep_refines H hh c a hg hs (.exchange j i rf) ⟨hl, hf, hji, hagree⟩
    refine ⟨hv, hsets, hgood, ksUpd_good (repair_upd_ne c j i rf hl hji) hn ?_⟩
    rw [hf]
    -- the stamps an exchange handles are those of records of the peer, i.e. of operations it has applied
    obtain ⟨repi, hsubi⟩ := hg i
    rw [hs i] at repi
    have hval : ∀ k t isDel, HasRec (absSet c i) k t isDel → ValidStamp t :=
      fun k t isDel h => hh.good.valid _ (hsubi _ (op_of_rec repi isDel h))
    refine List.foldlRecOn _ _ (hn j) fun k hk q hq => ?_
    rw [handleAt_working]
    refine C02.good_handle Cluster.F k _ hk ?_
    rcases mem_repairReqs hq with rfl | rfl
    · exact fun p hp => hval p.1 p.2 true ((diff_exact (absSet c j) (absSet c i) p.1 p.2).2.1 hp).1
    · exact fun d hd => hval d.1 d.2.1 false (fetched_rec hagree hd)

/-- **xrun_inv**: along EVERY run of the executable cluster model whose steps act at existing nodes
with working storage, `Inv` holds against some admissible run of the abstract cluster. -/
theorem xrun_inv (H : List Op) (hh : Hist Cluster.F H) (steps : List XStep) (c : Cluster) (a : Cl)
    (inv : Inv H c a) (hadm : AdmissibleRun' H c steps) :
    ∃ evs, C01c.ValidRun Cluster.F H a evs ∧ Inv H (xrun c steps) (C01c.run Cluster.F a evs) :=
  xrun_match H (P := AdmissibleRun' H) (fun _ _ _ h => h) (xstep_inv H hh) steps c a inv hadm

/-- A fresh node's set is `OrSwot.empty 2`: the sets of the keyspace actor have two sources
(`NUM_SOURCES = 2`, the default of `Keyspace.Node`). -/
theorem inv_init (H : List Op) (n : Nat) :
    Inv H { nodes := List.replicate n {} } (fun _ => ⟨OrSwot.empty 2, []⟩) := by
  have hd : ∀ x, getNode ({ nodes := List.replicate n {} } : Cluster) x = ({} : CNode) := by
    intro x
    unfold getNode List.getD
    rw [List.getElem?_replicate]
    split <;> rfl
  refine ⟨fun x => ?_, good_empty Cluster.F 2 H, fun x => ?_⟩
  · unfold absSet; rw [hd x]
  · rw [hd x]; exact C02.good_empty Cluster.F

/-- **xrun_from_fresh**: start `n` fresh nodes and run ANY sequence of requests and exchanges (acting at
existing nodes, storage working, operations of a history `H` within one forgiveness window): the
sets the executable model computes are those of an admissible run of the abstract cluster from the
empty state, and on every node the store agrees with the set (C02). -/
theorem xrun_from_fresh (H : List Op) (hh : Hist Cluster.F H) (n : Nat) (steps : List XStep)
    (hadm : AdmissibleRun' H { nodes := List.replicate n {} } steps) :
    ∃ evs, C01c.ValidRun Cluster.F H (fun _ => ⟨OrSwot.empty 2, []⟩) evs ∧
      (∀ x, (C01c.run Cluster.F (fun _ => ⟨OrSwot.empty 2, []⟩) evs x).s = absSet (xrun { nodes := List.replicate n {} } steps) x) ∧
      (∀ x, Agree (getNode (xrun { nodes := List.replicate n {} } steps) x).ks) := by
  obtain ⟨evs, hv, inv⟩ := xrun_inv H hh steps _ _ (inv_init H n) hadm
  exact ⟨evs, hv, inv.sim, fun x => (inv.nodes x).agree⟩

end Datacake.C01d
