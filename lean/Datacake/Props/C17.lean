/-
C17 — Every bundled storage backend behaves like the reference key-value model.

What can be *proved* here is about the reference model itself (`Model/Storage.lean`): that it is a
sensible specification — keyspaces are isolated, a document and its metadata read back exactly,
bulk calls are the folds of the single calls.  That SQLite, LMDB and the in-memory store *refine*
it is established differentially on every run (the backends are external programs; see DESIGN §8
C17): `dcharness` drives the three real backends, `dcdriver` this model, on the same call
sequences, including close/reopen of the persistent ones.
-/
import Datacake.Lemmas.Assoc

namespace Datacake.C17
open Datacake.Storage

theorem touch_ks (s : Store) (k k' : Nat) : (s.touch k).ks k' = s.ks k' := by
  unfold Store.touch Store.ks; split <;> rfl

theorem ks_setKs (s : Store) (k : Nat) (x : Keyspace) (k' : Nat) :
    (s.setKs k x).ks k' = if k' = k then x else s.ks k' := by
  simp only [Store.setKs, Store.ks, aget_aset]
  split <;> rfl

theorem ks_removeTombstones (s : Store) (k : Nat) (ids : List Nat) (k' : Nat) :
    (removeTombstones s k ids).ks k' =
      if k' = k then ids.foldl (fun x id => { x with rows := aerase x.rows id }) (s.ks k) else s.ks k' := by
  unfold removeTombstones
  simp only
  split
  · exact ks_setKs ..
  next h =>
    -- the keyspace does not exist: its record is the empty one, and erasing from that changes nothing
    have hk : s.ks k = {} := by rw [Store.ks, Option.not_isSome_iff_eq_none.1 h]; rfl
    have he : ids.foldl (fun x id => { x with rows := aerase x.rows id }) ({} : Keyspace) = {} := by
      induction ids with
      | nil => rfl
      | cons i is ih => exact ih
    rw [touch_ks, hk, he]
    split
    · subst k'; exact hk
    · rfl

/-- **keyspace_isolation**: a mutating call on keyspace `a` changes no observation
(`get`, `iter_metadata`) on another keyspace `b`. -/
theorem keyspace_isolation (s : Store) (a b : Nat) (hab : b ≠ a) (id ts : Nat) (bytes : List Nat)
    (ids : List Nat) :
    (put s a id ts bytes).ks b = s.ks b ∧ (markTombstone s a id ts).ks b = s.ks b ∧
    (removeTombstones s a ids).ks b = s.ks b := by
  refine ⟨?_, ?_, ?_⟩
  · rw [put, ks_setKs, if_neg hab]
  · rw [markTombstone, ks_setKs, if_neg hab]
  · rw [ks_removeTombstones, if_neg hab]

/-- **put_get_exact**: after `put`, `get` returns exactly those bytes (of any length, the empty
payload included) and that stamp; the metadata row says "live at `ts`"; other ids are untouched. -/
theorem put_get_exact (s : Store) (k id ts : Nat) (bytes : List Nat) :
    get (put s k id ts bytes) k id = some (id, ts, bytes) ∧
    aget ((put s k id ts bytes).ks k).rows id = some (ts, false) ∧
    (∀ id', id' ≠ id → get (put s k id ts bytes) k id' = get s k id') := by
  unfold Storage.get put
  simp only [ks_setKs, if_true, aget_aset]
  refine ⟨by simp, by simp, ?_⟩
  intro id' h
  simp only [if_neg h]

/-- **tombstone_exact**: after `mark_as_tombstone` the document is gone, the metadata row says
"tombstone at `ts`" — whether or not a document existed —, other ids are untouched. -/
theorem tombstone_exact (s : Store) (k id ts : Nat) :
    get (markTombstone s k id ts) k id = none ∧
    aget ((markTombstone s k id ts).ks k).rows id = some (ts, true) ∧
    (∀ id', id' ≠ id → get (markTombstone s k id ts) k id' = get s k id') := by
  unfold Storage.get markTombstone
  simp only [ks_setKs, if_true, aget_aset, aget_aerase]
  refine ⟨by simp, by simp, ?_⟩
  intro id' h
  simp only [if_neg h]

/-- Bulk calls are the folds of the single calls, in request order. -/
theorem multi_is_fold (s : Store) (k : Nat) (docs : List (Nat × Nat × List Nat))
    (tombs : List (Nat × Nat)) :
    multiPut s k docs = docs.foldl (fun s d => put s k d.1 d.2.1 d.2.2) (s.touch k) ∧
    markManyTombstone s k tombs = tombs.foldl (fun s d => markTombstone s k d.1 d.2) (s.touch k) :=
  ⟨rfl, rfl⟩

/-- Non-vacuity: a tombstone in a keyspace that never held a document is recorded and listed
(the scenario of defect D5). -/
example : iterMetadata (markManyTombstone {} 0 [(2, 77)]) 0 = [(2, 77, true)] ∧
    listOk (markManyTombstone {} 0 [(2, 77)]) [0] = true ∧
    listOk (markManyTombstone {} 0 [(2, 77)]) [] = false := by decide

end Datacake.C17
