/-
C14 — Under network faults an RPC answers correctly or fails; never twice or mixed.

The property is stated on event traces (`Monitor.Spec`).  Two layers decide it:

  1. `protocol_runs_satisfy_spec`: EVERY run (any length, any interleaving, any placement of
     losses, delays, timeouts and connection errors) of the protocol model `RpcNet` — client
     `send_inner` (one stream per request, optional timeout, error mapping), an at-most-once
     stream transport, the server's dispatch and handler — satisfies `Spec`.
  2. The model is tied to the code by trace inclusion: every trace that `harness-sim` observes on
     the real client and server over turmoil must be accepted by `RpcNet.run` (and, independently,
     by the verified monitor).

**Partial**: what the model says about `hyper`/`h2`/`turmoil` (no duplication of a stream's
request, replies matched to streams) is an assumption checked on sampled fault schedules, not a
theorem about those libraries.
-/
import Datacake.Lemmas.RpcNet

namespace Datacake.C14
open Datacake.Monitor

theorem monitor_iff (tr : List Ev) (tau slack : Nat) : monitor tr tau slack = true ↔ Spec tr tau slack := by
  simp only [monitor, Spec, List.all_eq_true, List.mem_zipIdx_iff_getElem?, Prod.forall]
  exact ⟨fun h n e he => h e n he, fun h e n he => h n e he⟩

/-- **monitor_sound**: a trace the monitor accepts satisfies the specification. -/
theorem monitor_sound (tr : List Ev) (tau slack : Nat) (h : monitor tr tau slack = true) : Spec tr tau slack :=
  (monitor_iff tr tau slack).1 h

/-- **monitor_complete**: and conversely. -/
theorem monitor_complete (tr : List Ev) (tau slack : Nat) (h : Spec tr tau slack) : monitor tr tau slack = true :=
  (monitor_iff tr tau slack).2 h

/-- What the specification gives for a completion with a reply. -/
theorem reply_is_own (tr : List Ev) (tau slack n id v t : Nat) (h : Spec tr tau slack)
    (he : tr[n]? = some (.done id (.reply v) t)) :
    v = expected id ∧ (before tr n).any (isBegin id) = true ∧ (before tr n).any (isSend id) = true ∧
    (before tr n).any (isDone id) = false := by
  have := h n _ he
  simp only [evOk, doneOk, Bool.and_eq_true, Bool.not_eq_true', decide_eq_true_eq] at this
  obtain ⟨⟨⟨h1, h2⟩, h3, h4⟩, _⟩ := this
  exact ⟨h3, h4, h1, h2⟩

/-- No request is executed by the handler more than once. -/
theorem handler_at_most_once (tr : List Ev) (tau slack n id t : Nat) (h : Spec tr tau slack)
    (he : tr[n]? = some (.hbegin id t)) : (before tr n).any (isBegin id) = false := by
  have := h n _ he
  simp only [evOk, Bool.and_eq_true, Bool.not_eq_true'] at this
  exact this.1

/-- With a timeout configured, a completion (answer or error) comes within the bound of its send.  That a
completion comes at all is not part of the trace property. -/
theorem within_timeout (tr : List Ev) (tau slack n id t : Nat) (o : Outcome) (h : Spec tr tau slack)
    (htau : tau ≠ 0) (he : tr[n]? = some (.done id o t)) :
    ∃ st, sendTime tr id = some st ∧ t ≤ st + tau + slack := by
  have := h n _ he
  simp only [evOk, doneOk, withinDeadline, Bool.and_eq_true, Bool.or_eq_true, beq_iff_eq] at this
  rcases this.2 with h2 | h2
  · exact absurd h2 htau
  · cases hs : sendTime tr id <;> rw [hs] at h2
    · cases h2
    · exact ⟨_, rfl, by simpa using h2⟩

/-- **protocol_runs_satisfy_spec**: every trace the protocol model can produce satisfies the specification. -/
theorem protocol_runs_satisfy_spec (tau slack : Nat) (tr : List Ev) (s : RpcNet.Net)
    (h : RpcNet.run tau slack RpcNet.init tr = some s) : Spec tr tau slack := by
  intro n e he
  simpa using RpcNet.run_spec_from tau slack tr RpcNet.init s [] RpcNet.inv_init h n e he

/-- The same for what the driver evaluates on every observed trace. -/
theorem accepted_trace_satisfies_spec (tau slack : Nat) (tr : List Ev)
    (h : RpcNet.firstRefused tau slack RpcNet.init tr 0 = none) : Spec tr tau slack := by
  obtain ⟨s, hr⟩ := Option.isSome_iff_exists.1 ((RpcNet.firstRefused_none_iff tau slack tr RpcNet.init 0).1 h)
  exact protocol_runs_satisfy_spec tau slack tr s hr

/-- Corollary in the property's own words: in a run of the protocol, a call that returns a reply
returns the value the handler computes for that very request, the handler ran for it, and no call
returns twice. -/
theorem protocol_reply_is_own (tau slack : Nat) (tr : List Ev) (s : RpcNet.Net)
    (h : RpcNet.run tau slack RpcNet.init tr = some s) (n id v t : Nat)
    (he : tr[n]? = some (.done id (.reply v) t)) :
    v = expected id ∧ (before tr n).any (isBegin id) = true ∧ (before tr n).any (isSend id) = true ∧
    (before tr n).any (isDone id) = false :=
  reply_is_own tr tau slack n id v t (protocol_runs_satisfy_spec tau slack tr s h) he

/-- No interleaving of the protocol runs a handler twice for one request. -/
theorem protocol_handler_at_most_once (tau slack : Nat) (tr : List Ev) (s : RpcNet.Net)
    (h : RpcNet.run tau slack RpcNet.init tr = some s) (n id t : Nat)
    (he : tr[n]? = some (.hbegin id t)) : (before tr n).any (isBegin id) = false :=
  handler_at_most_once tr tau slack n id t (protocol_runs_satisfy_spec tau slack tr s h) he

/-- Witnesses: the protocol model accepts a run in which two requests overlap and the second times out
before its handler ends; it refuses a swapped reply and a second handler run. -/
example : (RpcNet.run 2000 25 RpcNet.init
    [.send 1 0, .send 2 3, .hbegin 2 5, .hbegin 1 6, .hend 1 7, .done 1 (.reply 10) 9, .done 2 .timeout 2010, .hend 2 2600]).isSome = true := by decide
example : (RpcNet.run 2000 25 RpcNet.init
    [.send 1 0, .send 2 0, .hbegin 1 5, .hbegin 2 5, .hend 1 6, .hend 2 6, .done 1 (.reply 17) 9]).isSome = false := by decide
example : (RpcNet.run 0 25 RpcNet.init [.send 1 0, .hbegin 1 5, .hbegin 1 7]).isSome = false := by decide

/-- Witnesses: the monitor accepts a correct trace and rejects a swapped reply, a double execution
and a late answer. -/
example : monitor [.send 1 0, .hbegin 1 5, .hend 1 6, .done 1 (.reply 10) 9, .send 2 10, .done 2 .timeout 2010] 2000 25 = true := by decide
example : monitor [.send 1 0, .send 2 0, .hbegin 1 5, .hbegin 2 5, .done 1 (.reply 17) 9] 2000 25 = false := by decide
example : monitor [.send 1 0, .hbegin 1 5, .hbegin 1 7] 0 25 = false := by decide
example : monitor [.send 1 0, .hbegin 1 5, .done 1 (.reply 10) 2500] 2000 25 = false := by decide

end Datacake.C14
