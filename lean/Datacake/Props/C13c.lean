/-
C13 (support) — the request path determines the service and the message.

The registry theorems (`Props/C13.lean`, `Props/C13b.lean`) assume that a handler key belongs to one
service name (`WellOwned`).  A key is the request path `/sanitise(service)/sanitise(message)` (since
fix D26 the string itself; before, a 64-bit hash of it).  The path function of the current tree is
injective and always yields a valid URI path, so every key has one owner for ALL names.  For the tree
before the `fix:` commit for D15 this fails: two names share a path (`legacy_collision`) and a name with
a space gives a path `http::Uri` rejects (`legacy_invalid`; the client then panicked).

Names are byte strings (`List Nat`, every element below 256).
-/
import Datacake.Lemmas.Registry

namespace Datacake.C13c
open Datacake.Rpc

def Bytes (l : List Nat) : Prop := ∀ b ∈ l, b < 256

def unhex (c : Nat) : Nat := if c < 58 then c - 48 else c - 55

/-- The inverse of `sanitise`. -/
def decode : List Nat → List Nat
  | [] => []
  | [a] => [a]
  | [a, b] => [a, b]
  | a :: b :: c :: rest => if a = 37 then (16 * unhex b + unhex c) :: decode rest else a :: decode (b :: c :: rest)

theorem unhex_hexDigit : ∀ n, n < 16 → unhex (hexDigit n) = n := by decide

theorem unreserved_ne_37 (b : Nat) (h : unreserved b = true) : b ≠ 37 := by
  rintro rfl; cases h

theorem decode_cons_ne (a : Nat) (rest : List Nat) (h : a ≠ 37) : decode (a :: rest) = a :: decode rest := by
  match rest with
  | [] => rfl
  | [b] => rfl
  | b :: c :: r => simp [decode, h]

theorem decode_encByte (b : Nat) (hb : b < 256) (rest : List Nat) : decode (encByte b ++ rest) = b :: decode rest := by
  unfold encByte
  split
  · exact decode_cons_ne b rest (unreserved_ne_37 b ‹_›)
  · rw [List.cons_append, List.cons_append, List.cons_append, List.nil_append, decode, if_pos rfl,
      unhex_hexDigit _ (Nat.div_lt_of_lt_mul hb), unhex_hexDigit _ (Nat.mod_lt _ (by decide)), Nat.add_comm,
      Nat.mod_add_div]

/-- **decode_sanitise**: the name can be read back from its encoding. -/
theorem decode_sanitise (name : List Nat) (h : Bytes name) : decode (sanitise name) = name := by
  induction name with
  | nil => rfl
  | cons b rest ih =>
    obtain ⟨hb, hr⟩ := List.forall_mem_cons.1 h
    rw [sanitise, List.flatMap_cons, decode_encByte b hb, ← sanitise, ih hr]

/-- **sanitise_injective**: distinct names have distinct encodings. -/
theorem sanitise_injective (a b : List Nat) (ha : Bytes a) (hb : Bytes b) (h : sanitise a = sanitise b) : a = b := by
  rw [← decode_sanitise a ha, ← decode_sanitise b hb, h]

theorem hexDigit_ok : ∀ n, n < 16 → uriPathByte (hexDigit n) = true ∧ hexDigit n ≠ 47 := by decide

theorem unreserved_ok (b : Nat) (h : unreserved b = true) : uriPathByte b = true ∧ b ≠ 47 :=
  ⟨by simp [uriPathByte, h], fun e => by rw [e] at h; cases h⟩

theorem sanitise_bytes (name : List Nat) (h : Bytes name) : ∀ c ∈ sanitise name, uriPathByte c = true ∧ c ≠ 47 := by
  intro c hc
  obtain ⟨b, hb, hcb⟩ := List.mem_flatMap.1 hc
  unfold encByte at hcb
  split at hcb
  · rw [List.mem_singleton.1 hcb]; exact unreserved_ok b ‹_›
  · simp only [List.mem_cons, List.mem_nil_iff, or_false] at hcb
    rcases hcb with rfl | rfl | rfl
    · decide
    · exact hexDigit_ok _ (Nat.div_lt_of_lt_mul (h b hb))
    · exact hexDigit_ok _ (Nat.mod_lt _ (by decide))

theorem sep_inj (x : Nat) {l1 l2 r1 r2 : List Nat} (h1 : x ∉ l1) (h2 : x ∉ l2)
    (h : l1 ++ x :: r1 = l2 ++ x :: r2) : l1 = l2 ∧ r1 = r2 := by
  have key : ∀ l r, x ∉ l → (l ++ x :: r).takeWhile (· != x) = l := fun l r hx => by
    have hl : ∀ a ∈ l, (a != x) = true := fun a ha => bne_iff_ne.2 fun e => hx (e ▸ ha)
    rw [List.takeWhile_append_of_pos hl, List.takeWhile_cons_of_neg (by simp), List.append_nil]
  obtain rfl : l1 = l2 := by rw [← key l1 r1 h1, h, key l2 r2 h2]
  exact ⟨rfl, List.tail_eq_of_cons_eq (List.append_cancel_left h)⟩

/-- **toUri_injective**: the request path determines the service name AND the message name. -/
theorem toUri_injective (s p s' p' : List Nat) (hs : Bytes s) (hp : Bytes p) (hs' : Bytes s') (hp' : Bytes p')
    (h : toUri s p = toUri s' p') : s = s' ∧ p = p' := by
  unfold toUri at h
  injection h with _ h
  obtain ⟨e1, e2⟩ := sep_inj 47 (fun hc => (sanitise_bytes s hs 47 hc).2 rfl)
    (fun hc => (sanitise_bytes s' hs' 47 hc).2 rfl) h
  exact ⟨sanitise_injective s s' hs hs' e1, sanitise_injective p p' hp hp' e2⟩

/-- **toUri_valid**: whatever the names (type names with `<`, `,`, spaces, brackets, …), every byte of the
path is one `http::Uri` accepts in a path: the client never fails to build the request. -/
theorem toUri_valid (s p : List Nat) (hs : Bytes s) (hp : Bytes p) : ∀ c ∈ toUri s p, uriPathByte c = true := by
  intro c hc
  unfold toUri at hc
  simp only [List.mem_cons, List.mem_append] at hc
  rcases hc with rfl | hc | rfl | hc
  · rfl
  · exact (sanitise_bytes s hs c hc).1
  · rfl
  · exact (sanitise_bytes p hp c hc).1

theorem keys_well_owned (key : List Nat → Nat)
    (hinj : ∀ s p s' p', Bytes s → Bytes p → Bytes s' → Bytes p' →
      key (toUri s p) = key (toUri s' p') → toUri s p = toUri s' p') :
    ∃ owner : Nat → List Nat, ∀ s p, Bytes s → Bytes p → owner (key (toUri s p)) = s := by
  obtain ⟨owner, ho⟩ := exists_fun_of_unique (fun k s => ∃ p, Bytes s ∧ Bytes p ∧ k = key (toUri s p))
    fun k s s' ⟨p, hs, hp, e⟩ ⟨p', hs', hp', e'⟩ =>
      (toUri_injective _ _ _ _ hs hp hs' hp' (hinj _ _ _ _ hs hp hs' hp' (e.symm.trans e'))).1
  exact ⟨owner, fun s p hs hp => ho _ s ⟨p, hs, hp, rfl⟩⟩

/-- **uri_keys_well_owned**: with an injective hash on paths (the key before fix D26) every handler key has
ONE owner, for all service and message names. -/
theorem uri_keys_well_owned (hash : List Nat → Nat) (hinj : ∀ a b, hash a = hash b → a = b) :
    ∃ owner : Nat → List Nat, ∀ s p, Bytes s → Bytes p → owner (hash (toUri s p)) = s :=
  keys_well_owned hash fun _ _ _ _ _ _ _ _ h => hinj _ _ h

/-- A numbering of byte strings (the registry model numbers its keys): the bytes, each plus one, as digits
in base 257 - no digit is 0, so strings of different lengths get different numbers too. -/
def pathKey : List Nat → Nat
  | [] => 0
  | b :: bs => b + 1 + 257 * pathKey bs

theorem pathKey_injective (a b : List Nat) (ha : Bytes a) (hb : Bytes b) (h : pathKey a = pathKey b) : a = b := by
  induction a generalizing b with
  | nil =>
    cases b with
    | nil => rfl
    | cons y ys => exact absurd h (Nat.ne_of_lt (Nat.add_pos_left (Nat.succ_pos y) _))
  | cons x xs ih =>
    cases b with
    | nil => exact absurd h.symm (Nat.ne_of_lt (Nat.add_pos_left (Nat.succ_pos x) _))
    | cons y ys =>
      obtain ⟨hx, hxs⟩ := List.forall_mem_cons.1 ha
      obtain ⟨hy, hys⟩ := List.forall_mem_cons.1 hb
      rw [pathKey, pathKey] at h
      obtain ⟨h1, h2⟩ : x = y ∧ pathKey xs = pathKey ys := by omega
      rw [h1, ih ys hxs hys h2]

theorem uriPathByte_lt (c : Nat) (h : uriPathByte c = true) : c < 256 := by
  simp only [uriPathByte, unreserved, Bool.or_eq_true, Bool.and_eq_true, decide_eq_true_eq, beq_iff_eq] at h
  omega

theorem toUri_bytes (s p : List Nat) (hs : Bytes s) (hp : Bytes p) : Bytes (toUri s p) :=
  fun c hc => uriPathByte_lt c (toUri_valid s p hs hp c hc)

/-- **path_keys_well_owned**: since fix D26 the handler key IS the request path, so every handler key has ONE
owner for ALL service and message names without any assumption about a hash function (the owner function
that `WellOwned` asks for, there over numbered names). -/
theorem path_keys_well_owned :
    ∃ owner : Nat → List Nat, ∀ s p, Bytes s → Bytes p → owner (pathKey (toUri s p)) = s :=
  keys_well_owned pathKey fun s p s' p' hs hp hs' hp' h =>
    pathKey_injective _ _ (toUri_bytes s p hs hp) (toUri_bytes s' p' hs' hp') h

/-- `gen<M1>` and `gen-M1-` got the same path: one handler entry for two services. -/
theorem legacy_collision :
    toUriLegacy [103, 101, 110, 60, 77, 49, 62] [77] = toUriLegacy [103, 101, 110, 45, 77, 49, 45] [77] ∧
    toUri [103, 101, 110, 60, 77, 49, 62] [77] ≠ toUri [103, 101, 110, 45, 77, 49, 45] [77] := by decide

/-- `pair<M1, M2>`: the legacy path contains a space (32) and a comma kept as is; the space is not a
valid URI byte: `Request::builder().uri(..)` failed and the client panicked. -/
theorem legacy_invalid :
    (toUriLegacy [112, 97, 105, 114, 60, 77, 49, 44, 32, 77, 50, 62] [77]).any (fun c => !uriPathByte c) = true ∧
    (toUri [112, 97, 105, 114, 60, 77, 49, 44, 32, 77, 50, 62] [77]).all uriPathByte = true := by decide

example : Bytes [112, 97, 105, 114, 60, 77, 49, 44, 32, 77, 50, 62] := by
  unfold Bytes; decide

end Datacake.C13c
