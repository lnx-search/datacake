/-
C06, at the level of the executable cluster model: the theorem is about exactly the function the
driver executes (`Cluster.write`: local handler, `replicateAll`, `distribute`), with replicas that
fail (`failNext`), refuse connections (`down`) or stay silent (`hangNext` / `stuck`).
-/
import Datacake.Props.C06
import Datacake.Lemmas.ClusterFrame

namespace Datacake.C06
open Datacake.Lww Datacake.OrSwot Datacake.Storage Datacake.Keyspace Datacake.Cluster

/-- A bulk request may name an id any number of times: every entry is covered by the newest entry of
its id, which is what the handler keeps. -/
theorem ack_newest_holds {α : Type} (ts : α → Nat) (isDel : Bool) {bytes : Nat × α → List Nat} (F : Nat)
    (n : Node) (src : Nat) (docs : List (Nat × α)) (w : Option (List Nat)) (h : Agree n)
    (hfresh : ∀ d ∈ docs, isBefore n.set.safe (ts d.2) = false)
    (hack : (onBulk (fun d => (d.1, ts d.2)) isDel bytes F n src (newest ts docs) w).2 = .ok) :
    ∀ d ∈ docs, ∃ r, storeView (onBulk (fun d => (d.1, ts d.2)) isDel bytes F n src (newest ts docs) w).1.store
      d.1 = some r ∧ ts d.2 ≤ r / 2 := by
  intro d hd
  obtain ⟨e, he, hid, hle⟩ := newest_dominates ts docs d hd
  obtain ⟨r, hr, hrl⟩ := ack_onBulk_holds isDel bytes F n src w h (newest_nodup ts docs)
    (fun d hd => hfresh d (newest_mem hd)) hack e he
  exact ⟨r, hid ▸ hr, Nat.le_trans hle hrl⟩

/-- The same as `ack_put_holds` for `put_many`, whatever the batch looks like (ids repeated, any stamps). -/
theorem ack_mput_holds (F : Nat) (n : Node) (src : Nat) (docs : List Doc) (w : Option (List Nat)) (h : Agree n)
    (hfresh : ∀ d ∈ docs, isBefore n.set.safe d.2.1 = false)
    (hack : (onMultiSet F n src docs w).2 = .ok) :
    ∀ d ∈ docs, ∃ r, storeView (onMultiSet F n src docs w).1.store d.1 = some r ∧ d.2.1 ≤ r / 2 := by
  rw [onMultiSet, onMultiSetCore_eq] at hack ⊢
  exact ack_newest_holds (fun (v : Nat × List Nat) => v.1) false F n src docs w h hfresh hack

theorem ack_mdel_holds (F : Nat) (n : Node) (src : Nat) (docs : List (Nat × Nat)) (w : Option (List Nat)) (h : Agree n)
    (hfresh : ∀ d ∈ docs, isBefore n.set.safe d.2 = false)
    (hack : (onMultiDel F n src docs w).2 = .ok) :
    ∀ d ∈ docs, ∃ r, storeView (onMultiDel F n src docs w).1.store d.1 = some r ∧ d.2 ≤ r / 2 := by
  rw [onMultiDel, onMultiDelCore_eq] at hack ⊢
  exact ack_newest_holds (fun (t : Nat) => t) true F n src docs w h hfresh hack

/-- "Node `x` of the cluster holds the mutation `(id, ts)` or a newer record of that id". -/
def HoldsOne (c : Cluster) (x id ts : Nat) : Prop :=
  ∃ r, storeView (getNode c x).ks.store id = some r ∧ ts ≤ r / 2

def pairs : Issued → List (Nat × Nat)
  | .put d => [(d.1, d.2.1)]
  | .del id ts => [(id, ts)]
  | .mput ds => ds.map (fun d => (d.1, d.2.1))
  | .mdel ds => ds

/-- Node `x` holds every mutation of the request, or newer records. -/
def HoldsAt (c : Cluster) (x : Nat) (iss : Issued) : Prop := ∀ p ∈ pairs iss, HoldsOne c x p.1 p.2

theorem HoldsAt.congr {c c' : Cluster} {x : Nat} {iss : Issued} (e : getNode c' x = getNode c x)
    (h : HoldsAt c x iss) : HoldsAt c' x iss :=
  fun p hp => by unfold HoldsOne; rw [e]; exact h p hp

/-- The request is fresh for a set: none of its stamps is before the cut-off of its origin. -/
def Fresh (s : OrSwot) (iss : Issued) : Prop := ∀ p ∈ pairs iss, isBefore s.safe p.2 = false

theorem handleAt_holds {n : Node} (src : Nat) {fail : Bool} (iss : Issued) (hag : Agree n) (hfresh : Fresh n.set iss)
    (hok : (handleAt n src fail iss).2 = .ok) (p : Nat × Nat) (hp : p ∈ pairs iss) :
    ∃ r, storeView (handleAt n src fail iss).1.store p.1 = some r ∧ p.2 ≤ r / 2 := by
  cases iss with
  | put d =>
    obtain rfl := List.mem_singleton.1 hp
    exact ack_put_holds Cluster.F n src d fail hag (hfresh _ hp) hok
  | del id ts =>
    obtain rfl := List.mem_singleton.1 hp
    exact ack_del_holds Cluster.F n src id ts fail hag (hfresh _ hp) hok
  | mput ds =>
    revert p
    exact List.forall_mem_map.2 (ack_mput_holds Cluster.F n src ds _ hag (List.forall_mem_map.1 hfresh) hok)
  | mdel ds => exact ack_mdel_holds Cluster.F n src ds _ hag hfresh hok p hp

theorem applyAt_holds (c : Cluster) (t src : Nat) (iss : Issued) (h : t < c.nodes.length)
    (hag : Agree (getNode c t).ks) (hfresh : Fresh (getNode c t).ks.set iss)
    (hok : (applyAt c t src iss).2 = true) : HoldsAt (applyAt c t src iss).1 t iss := by
  intro p hp
  unfold HoldsOne
  rw [(applyAt_handled c t src iss h).ks]
  rw [applyAt_snd] at hok
  exact handleAt_holds src iss hag hfresh (eq_of_beq hok) p hp

theorem replicate_cases (c : Cluster) (down hangNext stuck : List Nat) (t : Nat) (iss : Issued) :
    replicate c down hangNext stuck t iss =
      ((applyAt c t 0 iss).1, stuck, if (applyAt c t 0 iss).2 then .ack else .err) ∨
    (∃ r, r ≠ Reply.ack ∧ replicate c down hangNext stuck t iss = (c, stuck, r)) ∨
    replicate c down hangNext stuck t iss = (hangAt c t iss, t :: stuck, .silent) := by
  unfold replicate
  cases h1 : down.contains t
  · cases h2 : stuck.contains t
    · cases h3 : (hangNext.contains t && callsStorage c t iss)
      · exact Or.inl rfl
      · exact Or.inr (Or.inr rfl)
    · exact Or.inr (Or.inl ⟨.silent, nofun, rfl⟩)
  · exact Or.inr (Or.inl ⟨.err, nofun, rfl⟩)

theorem replicate_only (c : Cluster) (down hangNext stuck : List Nat) (t : Nat) (iss : Issued) :
    OnlyAt t c (replicate c down hangNext stuck t iss).1 := by
  rcases replicate_cases c down hangNext stuck t iss with h | ⟨_, _, h⟩ | h <;> rw [h]
  · exact applyAt_only c t 0 iss
  · exact OnlyAt.refl t c
  · exact hangAt_only c t iss

theorem replicate_ack (c : Cluster) (down hangNext stuck : List Nat) (t : Nat) (iss : Issued)
    (h : t < c.nodes.length) (hag : Agree (getNode c t).ks)
    (hfresh : Fresh (getNode c t).ks.set iss)
    (hack : (replicate c down hangNext stuck t iss).2.2 = .ack) :
    HoldsAt (replicate c down hangNext stuck t iss).1 t iss := by
  rcases replicate_cases c down hangNext stuck t iss with e | ⟨r, hr, e⟩ | e <;> rw [e] at hack ⊢
  · -- the reply is an acknowledgement only if the handler returned `Ok`
    exact applyAt_holds c t 0 iss h hag hfresh
      (Decidable.byContradiction fun hb => by rw [if_neg hb] at hack; cases hack)
  · exact absurd hack hr
  · cases hack

/-- **replicateAll_spec**: the requests to distinct selected replicas are independent — nodes that
are not selected are untouched, there is one reply per replica, and every replica whose reply is
an acknowledgement holds the mutation or a newer record afterwards. -/
theorem replicateAll_spec (down hangNext : List Nat) (iss : Issued) :
    ∀ (targets : List Nat) (c : Cluster) (stuck : List Nat), targets.Nodup →
    (∀ t ∈ targets, t < c.nodes.length) →
    (∀ t ∈ targets, Agree (getNode c t).ks) →
    (∀ t ∈ targets, Fresh (getNode c t).ks.set iss) →
    (replicateAll c down hangNext stuck targets iss).2.2.length = targets.length ∧
    (∀ x, x ∉ targets → getNode (replicateAll c down hangNext stuck targets iss).1 x = getNode c x) ∧
    (replicateAll c down hangNext stuck targets iss).1.nodes.length = c.nodes.length ∧
    (∀ p ∈ targets.zip (replicateAll c down hangNext stuck targets iss).2.2, p.2 = .ack →
      HoldsAt (replicateAll c down hangNext stuck targets iss).1 p.1 iss) := by
  intro targets
  induction targets with
  | nil =>
    intro c stuck _ _ _ _
    exact ⟨rfl, fun _ _ => rfl, rfl, fun p hp => by simp at hp⟩
  | cons t ts ih =>
    intro c stuck hnd hin hag hfresh
    rw [replicateAll]
    simp only []
    rw [List.nodup_cons] at hnd
    rw [List.forall_mem_cons] at hin hag hfresh
    obtain ⟨hl1, hks⟩ := replicate_only c down hangNext stuck t iss
    have hne : ∀ t' ∈ ts, t' ≠ t := fun t' ht' e => hnd.1 (e ▸ ht')
    obtain ⟨i1, i2, i3, i4⟩ := ih (replicate c down hangNext stuck t iss).1 (replicate c down hangNext stuck t iss).2.1 hnd.2
      (fun t' ht' => hl1 ▸ hin.2 t' ht')
      (fun t' ht' => hks t' (hne t' ht') ▸ hag.2 t' ht')
      (fun t' ht' => hks t' (hne t' ht') ▸ hfresh.2 t' ht')
    refine ⟨by simp [i1], ?_, by rw [i3, hl1], ?_⟩
    · intro x hx
      rw [i2 x (fun h => hx (List.mem_cons_of_mem _ h)), hks x (fun e => hx (e ▸ List.mem_cons_self))]
    · intro p hp hack
      rw [List.zip_cons_cons, List.mem_cons] at hp
      rcases hp with rfl | hp
      · exact (replicate_ack c down hangNext stuck t iss hin.1 hag.1 hfresh.1 hack).congr (i2 t hnd.1)
      · exact i4 p hp hack

theorem distribute_targets {P : Nat → Prop} (targets : List Nat) {R : List Reply} (hlen : R.length = targets.length)
    (hnd : targets.Nodup) (hP : ∀ p ∈ targets.zip R, p.2 = .ack → P p.1) :
    (distribute R = .ok () → ∀ t ∈ targets, P t) ∧
    (∀ a q, distribute R = .error (a, q) → q = targets.length ∧ a < q ∧
      ∃ acked : List Nat, acked.length = a ∧ (∀ t ∈ acked, t ∈ targets) ∧ acked.Nodup ∧ ∀ t ∈ acked, P t) := by
  constructor
  · intro hd t ht
    rw [← List.map_fst_zip (l₁ := targets) (l₂ := R) (Nat.le_of_eq hlen.symm)] at ht
    obtain ⟨p, hp, rfl⟩ := List.mem_map.1 ht
    exact hP p hp ((distribute_replies R).1.1 hd _ (List.of_mem_zip hp).2)
  · intro a q hd
    obtain ⟨ha, hq, hlt⟩ := (distribute_replies R).2 a q hd
    refine ⟨by rw [hq, hlen], hlt, ((targets.zip R).filter (fun p => p.2 == .ack)).map (·.1), ?_, ?_, ?_, ?_⟩
    · rw [List.length_map, ha]
      calc _ = (((targets.zip R).map Prod.snd).filter (fun r => r == Reply.ack)).length := by
              rw [List.filter_map, List.length_map]; rfl
        _ = _ := by rw [List.map_snd_zip (Nat.le_of_eq hlen)]
    · exact List.forall_mem_map.2 fun p hp => (List.of_mem_zip (List.mem_filter.1 hp).1).1
    · refine List.Nodup.sublist (List.Sublist.map _ List.filter_sublist) ?_
      rw [List.map_fst_zip (Nat.le_of_eq hlen.symm)]
      exact hnd
    · exact List.forall_mem_map.2 fun p hp => hP p (List.mem_filter.1 hp).1 (eq_of_beq (List.mem_filter.1 hp).2)

/-- The premises of the property: what C15 gives of the selected replicas (distinct, not the issuer),
C02 of every node (`agree`) and C09 of the write (`fresh`). -/
structure WriteOk (c : Cluster) (i : Nat) (targets : List Nat) (iss : Issued) : Prop where
  nodup : targets.Nodup
  notSelf : i ∉ targets
  issuer : i < c.nodes.length
  inRange : ∀ t ∈ targets, t < c.nodes.length
  agree : ∀ x, Agree (getNode c x).ks
  fresh : ∀ x, Fresh (getNode c x).ks.set iss

/-- **write_spec**: what `Cluster.write` guarantees, for every request kind (put, del, put_many,
del_many) and replicas that fail, refuse connections or stay silent in any combination.
* `Ok`: the issuer and EVERY selected replica hold the mutation or a newer record of its id;
* consistency error `(a, q)`: `q` is the number of selected replicas, `a < q`, at least `a` of the
  selected replicas hold it (those that acknowledged), and the local write is in place;
* local failure: no replica was contacted. -/
theorem write_spec (c : Cluster) (down hangNext stuck : List Nat) (i : Nat) (targets : List Nat) (iss : Issued)
    (hw : WriteOk c i targets iss) :
    match (write c down hangNext stuck i targets iss).2.2 with
    | .done (.ok _) =>
        HoldsAt (write c down hangNext stuck i targets iss).1 i iss ∧
        ∀ t ∈ targets, HoldsAt (write c down hangNext stuck i targets iss).1 t iss
    | .done (.error (a, q)) =>
        q = targets.length ∧ a < q ∧
        HoldsAt (write c down hangNext stuck i targets iss).1 i iss ∧
        ∃ acked : List Nat, acked.length = a ∧ (∀ t ∈ acked, t ∈ targets) ∧ acked.Nodup ∧
          ∀ t ∈ acked, HoldsAt (write c down hangNext stuck i targets iss).1 t iss
    | .localFailed =>
        ∀ x, x ≠ i → getNode (write c down hangNext stuck i targets iss).1 x = getNode c x := by
  obtain ⟨hnd, hni, hi, hr, hag, hfr⟩ := hw
  unfold write
  simp only []
  cases hloc : (applyAt c i 0 iss).2 with
  | false =>
    simp only [Bool.not_false, if_true]
    exact (applyAt_only c i 0 iss).other
  | true =>
    simp only [Bool.not_true, Bool.false_eq_true, if_false]
    have hhold := applyAt_holds c i 0 iss hi (hag i) (hfr i) hloc
    generalize hc1 : ({ (applyAt c i 0 iss).1 with ops := (applyAt c i 0 iss).1.ops ++ [(i, iss)] } : Cluster) = c1
    have h1 : OnlyAt i c c1 := hc1 ▸ ⟨(applyAt_only c i 0 iss).length, (applyAt_only c i 0 iss).other⟩
    have hne : ∀ t ∈ targets, t ≠ i := fun t ht e => hni (e ▸ ht)
    obtain ⟨s1, s2, _, s4⟩ := replicateAll_spec down hangNext iss targets c1 stuck hnd
      (fun t ht => h1.length ▸ hr t ht)
      (fun t ht => h1.other t (hne t ht) ▸ hag t)
      (fun t ht => h1.other t (hne t ht) ▸ hfr t)
    have hissuer : HoldsAt (replicateAll c1 down hangNext stuck targets iss).1 i iss :=
      hhold.congr ((s2 i hni).trans (hc1 ▸ rfl))
    obtain ⟨d1, d2⟩ := distribute_targets (P := fun t => HoldsAt (replicateAll c1 down hangNext stuck targets iss).1 t iss)
      targets s1 hnd s4
    cases hd : distribute (replicateAll c1 down hangNext stuck targets iss).2.2 with
    | ok u => exact ⟨hissuer, d1 hd⟩
    | error e =>
      obtain ⟨hq, hlt, hacked⟩ := d2 e.1 e.2 hd
      exact ⟨hq, hlt, hissuer, hacked⟩

/-- Three nodes, the issuer writes at level All; replica 1 is silent, replica 2 acknowledges: the error
says 1 of 2, and replica 2 and the issuer hold the write. -/
example :
    let c : Cluster := { nodes := [{}, {}, {}] }
    let d : Doc := (5, Ts.pack 5000000 0 1, [187])
    let r := write c [] [1] [] 0 [1, 2] (.put d)
    (match r.2.2 with | .done (.error (1, 2)) => true | _ => false) = true ∧ r.2.1 = [1] ∧
    storeView (getNode r.1 0).ks.store 5 = some (liveRec d.2.1) ∧
    storeView (getNode r.1 2).ks.store 5 = some (liveRec d.2.1) ∧
    view (getNode r.1 1).ks.set 5 = none := by
  decide

end Datacake.C06
