/-
C05 (second part, gap-free alternative) — one exchange repairs, also when the history spans more
than a forgiveness period.

Precondition (the property's "gap-free" alternative): the replica has applied a gap-free prefix of
every origin's operations (`DownClosed`).  The difference is applied through ONE source `src`
(the store uses the repair source), in any order of its items, and the set has at least one other
source `j` (the store has two): what `j` has seen of an origin is then older than every item of that
origin, so the cut-off — the minimum over the sources — stays below every item while the exchange
runs, and no item is refused.  (With a single source the statement is false:
`single_source_counterexample`.)
-/
import Datacake.Lemmas.SafeExact
import Datacake.Props.C05b

namespace Datacake.C05
open Datacake.Lww Datacake.OrSwot Datacake.Ts Datacake.Map

/-- Under the gap-free alternative, items arriving on one source of a set with a second source are
all accepted: an item is an operation the replica has not applied, hence (gap-free) newer than
everything the replica has applied from its origin, in particular than what the quiet source has
seen. -/
theorem exchanged_of_gapfree (F : Nat) (H : List Op) (hg : GoodHist H)
    (a b : OrSwot) (A B : List Op) (ra : Rep F a A) (rb : Rep F b B)
    (hA : ∀ o ∈ A, o ∈ H) (hB : ∀ o ∈ B, o ∈ H) (hdc : DownClosed A H) (he : SafeExact F a)
    (src j : Nat) (hj : j ≠ src) (hjN : j < a.maxs.length)
    (order : List SrcOp) (hsrc : ∀ so ∈ order, so.src = src)
    (hsub : ∀ so ∈ order, so.op ∈ diffOps a b)
    (hall : ∀ o ∈ diffOps a b, ∃ so ∈ order, so.op = o) :
    Exchanged a b A (applyAll F a order) (A ++ order.map (·.op)) := by
  obtain ⟨m, hm⟩ : ∃ m, a.maxs[j]? = some m := ⟨a.maxs[j], List.getElem?_eq_getElem hjN⟩
  have hquiet : ∀ so ∈ order, so.src ≠ j ∧ ValidStamp so.op.ts ∧
      ∀ v, Map.get m (node so.op.ts) = some v → v ≤ so.op.ts := by
    intro so hso
    obtain ⟨hr, hl⟩ := mem_diffOps.1 (hsub so hso)
    have hH := hB _ (op_of_rec rb _ hr)
    have hnA : so.op ∉ A := fun hinA =>
      (lacks_iff_view.1 hl).1
        (ra.view _ ▸ atLeast_lww.2 ⟨so.op, hinA, rfl, deadRec_le_rank so.op⟩)
    refine ⟨hsrc so hso ▸ hj.symm, hg.valid _ hH, fun v hv => ?_⟩
    -- what `j` remembers is the stamp of an applied `o'`; were the item older, gap-freeness would have it applied
    obtain ⟨⟨o', ho', rfl⟩, hn⟩ := ra.vers.maxs m (List.mem_of_getElem? hm) _ v hv
    exact Nat.le_of_not_le fun hle => hnA (hdc o' ho' so.op hH hn.symm hle)
  have hgm : GoodMaxs a := fun m hm X v hv => by
    obtain ⟨⟨o, ho, rfl⟩, hn⟩ := ra.vers.maxs m hm X v hv
    exact ⟨hn, hg.valid o (hA o ho)⟩
  have hview := (C04.apply_ops_lww_from F order a ra.disj
    (accepted_quiet F j order a m he hgm hm hquiet)).1
  refine ⟨fun k => ?_, fun o => ?_⟩
  · rw [hview k, ra.view k]
    exact (List.foldl_append ..).symm
  · rw [List.mem_append, List.mem_map]
    exact or_congr Iff.rfl ⟨fun ⟨so, hso, e⟩ => e ▸ hsub so hso, hall o⟩

/-- **apply_diff_closes_gapfree**: for a replica that has applied a gap-free prefix of every
origin's operations, applying the difference against a peer through one source — in ANY order of
its items — on a set with at least one other source leaves nothing further to fetch from that peer.
No bound on how far apart in time the operations are. -/
theorem apply_diff_closes_gapfree (F : Nat) (H : List Op) (hg : GoodHist H)
    (a b : OrSwot) (A B : List Op) (ra : Rep F a A) (rb : Rep F b B)
    (hA : ∀ o ∈ A, o ∈ H) (hB : ∀ o ∈ B, o ∈ H) (hdc : DownClosed A H) (he : SafeExact F a)
    (src j : Nat) (hj : j ≠ src) (hjN : j < a.maxs.length)
    (order : List SrcOp) (hsrc : ∀ so ∈ order, so.src = src)
    (hsub : ∀ so ∈ order, so.op ∈ diffOps a b)
    (hall : ∀ o ∈ diffOps a b, ∃ so ∈ order, so.op = o) :
    diff (applyAll F a order) b = ([], []) :=
  (exchanged_of_gapfree F H hg a b A B ra rb hA hB hdc he src j hj hjN order hsrc hsub hall).closes
    ra rb hB (sound_of_downClosed hg hA hdc ra.vers)

/-- After the exchange the replica's record of every key is the newer of its own and the peer's. -/
theorem exchange_dominates_gapfree (F : Nat) (H : List Op) (hg : GoodHist H) (hd : KeyStampDistinct H)
    (a b : OrSwot) (A B : List Op) (ra : Rep F a A) (rb : Rep F b B)
    (hA : ∀ o ∈ A, o ∈ H) (hB : ∀ o ∈ B, o ∈ H) (hdc : DownClosed A H) (he : SafeExact F a)
    (src j : Nat) (hj : j ≠ src) (hjN : j < a.maxs.length)
    (order : List SrcOp) (hsrc : ∀ so ∈ order, so.src = src)
    (hsub : ∀ so ∈ order, so.op ∈ diffOps a b)
    (hall : ∀ o ∈ diffOps a b, ∃ so ∈ order, so.op = o) (k : Nat) :
    view (applyAll F a order) k = omax (view a k) (view b k) :=
  exchanged_dominates (exchanged_of_gapfree F H hg a b A B ra rb hA hB hdc he src j hj hjN order hsrc hsub hall)
    ra rb hA hB (sound_of_downClosed hg hA hdc ra.vers) hd k

/-- **exchange_converges_gapfree**: two replicas that have each applied gap-free prefixes and each
apply their difference against the other (any item order, one source, a second source present)
expose identical records (`view`). -/
theorem exchange_converges_gapfree (F : Nat) (H : List Op) (hg : GoodHist H) (hd : KeyStampDistinct H)
    (a b : OrSwot) (A B : List Op) (ra : Rep F a A) (rb : Rep F b B)
    (hA : ∀ o ∈ A, o ∈ H) (hB : ∀ o ∈ B, o ∈ H) (hdcA : DownClosed A H) (hdcB : DownClosed B H)
    (hea : SafeExact F a) (heb : SafeExact F b)
    (src j : Nat) (hj : j ≠ src) (hja : j < a.maxs.length) (hjb : j < b.maxs.length)
    (oa ob : List SrcOp) (hsa : ∀ so ∈ oa, so.src = src) (hsb : ∀ so ∈ ob, so.src = src)
    (ha1 : ∀ o ∈ oa, o.op ∈ diffOps a b) (ha2 : ∀ o ∈ diffOps a b, ∃ so ∈ oa, so.op = o)
    (hb1 : ∀ o ∈ ob, o.op ∈ diffOps b a) (hb2 : ∀ o ∈ diffOps b a, ∃ so ∈ ob, so.op = o) (k : Nat) :
    view (applyAll F a oa) k = view (applyAll F b ob) k := by
  rw [exchange_dominates_gapfree F H hg hd a b A B ra rb hA hB hdcA hea src j hj hja oa hsa ha1 ha2 k,
      exchange_dominates_gapfree F H hg hd b a B A rb ra hB hA hdcB heb src j hj hjb ob hsb hb1 hb2 k,
      omax_comm]

/-- Why a second source is needed: with a single source, applying the newest item first moves the
cut-off past the older item, which is then refused — and, being "already observed", is not even
listed by the next difference: the replica never learns document 1. -/
theorem single_source_counterexample :
    let t1 := pack 5000000 0 1
    let t2 := pack 9000000 0 1
    let b := (insertWithSource 3600000 (insertWithSource 3600000 (OrSwot.empty 1) 0 1 t1).1 0 2 t2).1
    let a := OrSwot.empty 1
    let a' := (insertWithSource 3600000 (insertWithSource 3600000 a 0 2 t2).1 0 1 t1).1
    diff a b = ([(2, t2), (1, t1)], []) ∧ OrSwot.get a' 1 = none ∧ OrSwot.get b 1 = some t1 ∧
    -- ... and the difference is empty afterwards: document 1 is never fetched again
    diff a' b = ([], []) ∧
    -- with two sources the same order closes the difference
    (let b2 := (insertWithSource 3600000 (insertWithSource 3600000 (OrSwot.empty 2) 0 1 t1).1 0 2 t2).1
     let a2 := (insertWithSource 3600000 (insertWithSource 3600000 (OrSwot.empty 2) 1 2 t2).1 1 1 t1).1
     diff a2 b2 = ([], [])) := by
  decide

end Datacake.C05
