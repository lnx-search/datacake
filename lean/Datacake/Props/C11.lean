/-
C11 — Node clock serialises concurrent callers: no duplicate or regressing stamps.

Model (`Model/Clock.lean`): the clock actor (`datacake-node/src/clock.rs: run_clock`) handles one
event at a time from a FIFO queue.  Whatever the interleaving of the callers' enqueues, the actor sees
*some* sequence of events, each with the wall reading at its processing time.  So "for all interleavings
of get_time/register_ts calls from several tasks" is "for all event lists".

What is assumed of the runtime (and observed by the correspondence run, not proved): the flume
channel is FIFO with a single consumer, and a reply reaches the caller that asked.
-/
import Datacake.Props.C09
import Datacake.Model.Clock

namespace Datacake.C11
open Datacake.Ts Datacake.Clock
open Datacake.C09 (IsU64 send_spec recv_spec)

/-- The replies to `Get` events, in processing order. -/
def replies : List Ev → List Nat
  | [] => []
  | .issued t :: rest => t :: replies rest
  | .registered _ _ :: rest => replies rest

theorem mem_replies {evs : List Ev} {t : Nat} : t ∈ replies evs ↔ Ev.issued t ∈ evs := by
  induction evs with
  | nil => simp [replies]
  | cons e es ih =>
    cases e with
    | issued u => simp [replies, ih]
    | registered w m => simp [replies, ih]

def _root_.Datacake.Clock.Req.WallOk : Req → Prop
  | .get w => C09.WallOk w
  | .register w _ => C09.WallOk w

theorem nextInstant_spec (t nd n : Nat) (hnd : nd < 256) (h : nextInstant t nd = some n) :
    t < n ∧ node n = nd ∧ dts n = dts t + 4 ∧ counter n = 0 ∧ IsU64 n ∧ fractional n < 250 := by
  obtain ⟨hs, rfl⟩ := new?_eq_some h
  obtain ⟨e1, e2, e3, e4, e5⟩ := pack_spec _ 0 nd hs (by decide) hnd ((Nat.add_mod_right ..).trans (dts_mod4 t))
  exact ⟨lt_of_time t _ e5 (.inl (by omega)), e3, e1, e2, e4, e5⟩

/-- The stamp following a valid clock value is strictly above it, under the same node id, valid. -/
theorem following_spec (c n : Nat) (hc : IsU64 c ∧ fractional c < 250) (h : following c = some n) :
    c < n ∧ node n = node c ∧ IsU64 n ∧ fractional n < 250 := by
  unfold following at h
  split at h
  next hk =>
    obtain ⟨hs, rfl⟩ := new?_eq_some h
    obtain ⟨e1, e2, e3, e4, e5⟩ := pack_spec _ _ _ hs (Nat.succ_lt_succ hk) (node_lt c) (dts_mod4 c)
    exact ⟨lt_of_time c _ e5 (.inr ⟨e1.symm, .inl (e2 ▸ Nat.lt_succ_self _)⟩), e3, e4, e5⟩
  next =>
    obtain ⟨g1, g2, _, _, g56⟩ := nextInstant_spec c (node c) n (node_lt c) h
    exact ⟨g1, g2, g56⟩

/-- `Get`: the reply is strictly above the clock, under the clock's node id, and a valid stamp. -/
theorem onGet_spec (c w c' : Nat) (hw : C09.WallOk w) (hc : IsU64 c ∧ fractional c < 250) (h : onGet c w = some c') :
    c < c' ∧ node c' = node c ∧ IsU64 c' ∧ fractional c' < 250 := by
  rw [onGet] at h
  cases hs : send c w with
  | ok c1 =>
    rw [hs] at h; cases h
    obtain ⟨h1, h2, _, _, _, h67⟩ := send_spec c w _ hw hs
    exact ⟨h1, h2, h67⟩
  | error e =>
    rw [hs] at h
    exact following_spec c c' hc h

/-- **onGet_total** (liveness of the actor, fix D34): whatever the wall clock reads - stalled,
stepped back by any amount, absurdly far ahead - a `Get` is answered, as long as the clock itself
is not within 4 ms of the end of the representable time (7 February 2159). -/
theorem onGet_total (c w : Nat) (hc : IsU64 c ∧ fractional c < 250)
    (hend : durSecs (dts c + 4) ≤ TIMESTAMP_MAX) : (onGet c w).isSome = true := by
  rw [onGet]
  cases send c w with
  | ok c1 => rfl
  | error e =>
    simp only []
    unfold following
    split
    · rw [new?_of_le (durSecs_dts_le c hc.1 hc.2)]; rfl
    · rw [nextInstant, new?_of_le hend]; rfl

/-- `Register`: the clock never moves backwards and keeps its node id and validity. -/
theorem onRegister_mono (c w r : Nat) (hw : C09.WallOk w) (hc : IsU64 c ∧ fractional c < 250) :
    c ≤ onRegister c w r ∧ node (onRegister c w r) = node c ∧
    IsU64 (onRegister c w r) ∧ fractional (onRegister c w r) < 250 := by
  have stay : c ≤ c ∧ node c = node c ∧ IsU64 c ∧ fractional c < 250 := ⟨Nat.le_refl _, rfl, hc⟩
  rw [onRegister]
  split
  next c' _ e =>
    obtain ⟨g1, _, g3, _, _, _, _, _, g9⟩ := recv_spec c w r _ _ hw e
    exact ⟨Nat.le_of_lt g1, g3, g9⟩
  next =>
    cases hn : nextInstant r (node c) with
    | none => exact stay
    | some n =>
      obtain ⟨_, g2, _, _, g56⟩ := nextInstant_spec r (node c) n (node_lt c) hn
      simp only []
      split
      next hlt => exact ⟨Nat.le_of_lt hlt, g2, g56⟩
      next => exact stay
  next => exact stay

/-- When `recv` must succeed. -/
theorem recv_ok_of (c w m : Nat) (hnode : node c ≠ node m) (hd1 : dts m ≤ w + MAX_CLOCK_DRIFT_MS)
    (hd2 : dts c ≤ w + MAX_CLOCK_DRIFT_MS) (hrg : ¬ durSecs (max (max (dts c) w) (dts m)) > TIMESTAMP_MAX)
    (hctr : recvCounter (max (max (dts c) w) (dts m)) (dts c) (dts m) (counter c) (counter m) ≠ .error .overflow) :
    ∃ c' x, recv c w m = .ok (c', x) := by
  match recv c w m, recv_exit c w m with
  | .err .duplicatedNode, hn => exact absurd hn hnode
  | .err .clockDrift, ⟨_, hd⟩ => omega
  | .err .overflow, ⟨_, _, _, ho⟩ => exact ho.elim (fun h => absurd h hrg) (fun h => absurd h hctr)
  | .ok (c', x), _ => exact ⟨c', x, rfl⟩

/-- **register_takes_effect**: a `Register(r)` of a remote stamp (another node's) that is not
beyond the allowed drift - AT the limit included - leaves the clock strictly above `r`, whatever the
counters are (fixes D19 and D36).  `hrange`: the wall clock plus the drift is before the year 2159, and so is
the 4 ms instant after it (`+ 4`), where the clock goes when the counter of `r` is exhausted. -/
theorem register_takes_effect (c w r : Nat) (hw : C09.WallOk w) (hc : IsU64 c ∧ fractional c < 250)
    (hnode : node c ≠ node r) (hdrift : dts r ≤ w + MAX_CLOCK_DRIFT_MS)
    (hrange : (w + MAX_CLOCK_DRIFT_MS + 4) / 1000 ≤ TIMESTAMP_MAX) :
    r < onRegister c w r := by
  rw [onRegister]
  match hr : recv c w r, recv_exit c w r with
  | .err .duplicatedNode, hn => exact absurd hn hnode
  | .err .clockDrift, ⟨_, hd⟩ =>
    -- the clock itself is beyond the drift: it is above the remote stamp already
    exact lt_of_time r c hc.2 (.inl (by omega))
  | .err .overflow, _ =>
    -- no counter value is left at the instant of `r`: the clock moves to the instant after `r`, or is beyond it
    have hs := Nat.le_trans (Nat.div_le_div_right (Nat.add_le_add_right hdrift 4)) hrange
    have hn : nextInstant r (node c) = some _ := new?_of_le hs
    have g1 := (nextInstant_spec r (node c) _ (node_lt c) hn).1
    simp only [hn]
    split <;> omega
  | .ok (c', x), _ => exact (recv_spec c w r c' x hw hr).2.1

/-- What the ordering theorems use of a run from clock `c`: a reply is above the clock and becomes the clock, a
registration does not lower the clock and, of an admissible remote stamp, leaves it above that stamp; the node id stays. -/
inductive Steps : Nat → List Ev → Prop
  | nil (c : Nat) : Steps c []
  | issued {c t : Nat} {evs : List Ev} : c < t → node t = node c → Steps t evs → Steps c (.issued t :: evs)
  | registered {c c' w r : Nat} {evs : List Ev} : c ≤ c' → node c' = node c →
      (node c ≠ node r → dts r ≤ w + MAX_CLOCK_DRIFT_MS → (w + MAX_CLOCK_DRIFT_MS + 4) / 1000 ≤ TIMESTAMP_MAX → r < c') →
      Steps c' evs → Steps c (.registered w r :: evs)

theorem run_steps (reqs : List Req) : ∀ (c : Nat), (∀ q ∈ reqs, q.WallOk) → (IsU64 c ∧ fractional c < 250) →
    Steps c (run (some c) reqs) := by
  induction reqs with
  | nil => exact fun c _ _ => .nil c
  | cons q rest ih =>
    intro c hw hc
    obtain ⟨hq, hwr⟩ := List.forall_mem_cons.1 hw
    cases q with
    | get w =>
      rw [run]
      cases hg : onGet c w with
      | none => exact .nil c
      | some c' =>
        obtain ⟨g1, g2, g3⟩ := onGet_spec c w c' hq hc hg
        exact .issued g1 g2 (ih c' hwr g3)
    | register w r =>
      obtain ⟨g1, g2, g3⟩ := onRegister_mono c w r hq hc
      exact .registered g1 g2 (register_takes_effect c w r hq hc) (ih _ hwr g3)

theorem Steps.reply_gt {c : Nat} {evs : List Ev} (h : Steps c evs) (t : Nat) (ht : t ∈ replies evs) :
    c < t ∧ node t = node c := by
  induction h with
  | nil => cases ht
  | issued h1 h2 _ ih =>
    rcases List.mem_cons.1 ht with rfl | ht
    · exact ⟨h1, h2⟩
    · exact ⟨Nat.lt_trans h1 (ih ht).1, (ih ht).2.trans h2⟩
  | registered h1 h2 _ _ ih => exact ⟨Nat.lt_of_le_of_lt h1 (ih ht).1, (ih ht).2.trans h2⟩

theorem Steps.replies_increasing {c : Nat} {evs : List Ev} (h : Steps c evs) : (replies evs).Pairwise (· < ·) := by
  induction h with
  | nil => exact .nil
  | issued _ _ hs ih => exact .cons (fun u hu => (hs.reply_gt u hu).1) ih
  | registered _ _ _ _ ih => exact ih

/-- **replies_strictly_increasing**: for every sequence of events the actor processes — i.e. every
interleaving of any number of concurrent callers, with stalled, jumping or backwards wall clock,
registrations of any remote stamps, counters exhausted or not — the replies to `get_time` are
strictly increasing in processing order, hence pairwise distinct. -/
theorem replies_strictly_increasing (reqs : List Req) : ∀ (c : Nat), (∀ q ∈ reqs, q.WallOk) →
    (IsU64 c ∧ fractional c < 250) → (replies (run (some c) reqs)).Pairwise (· < ·) :=
  fun c hw hc => (run_steps reqs c hw hc).replies_increasing

theorem replies_distinct (reqs : List Req) (c : Nat) (hw : ∀ q ∈ reqs, q.WallOk)
    (hc : IsU64 c ∧ fractional c < 250) : (replies (run (some c) reqs)).Nodup :=
  (replies_strictly_increasing reqs c hw hc).imp Nat.ne_of_lt

/-- **per_task_increasing**: a task asks for its next stamp only after it received the previous
one, so its own replies are a subsequence of the processing order — and every subsequence of the
replies is strictly increasing. -/
theorem per_task_increasing (reqs : List Req) (c : Nat) (hw : ∀ q ∈ reqs, q.WallOk)
    (hc : IsU64 c ∧ fractional c < 250) (mine : List Nat) (hsub : mine.Sublist (replies (run (some c) reqs))) :
    mine.Pairwise (· < ·) :=
  List.Pairwise.sublist hsub (replies_strictly_increasing reqs c hw hc)

/-- **after_register_greater**: every `get_time` processed after a `register_ts(r)` of a remote
stamp that is not beyond the allowed drift (AT the limit included, fix D36) replies with a stamp
greater than `r`.  No condition on counters; the range condition is that of `register_takes_effect`. -/
theorem after_register_greater (reqs : List Req) : ∀ (c : Nat), (∀ q ∈ reqs, q.WallOk) →
    (IsU64 c ∧ fractional c < 250) → ∀ (pre post : List Ev) (w r t : Nat),
    run (some c) reqs = pre ++ Ev.registered w r :: post →
    node c ≠ node r → dts r ≤ w + MAX_CLOCK_DRIFT_MS → (w + MAX_CLOCK_DRIFT_MS + 4) / 1000 ≤ TIMESTAMP_MAX →
    Ev.issued t ∈ post → r < t := by
  intro c hw hc pre post w r t h hnode hdrift hrange ht
  have hs := h ▸ run_steps reqs c hw hc
  clear h hw hc
  induction pre generalizing c with
  | nil =>
    cases hs with
    | registered _ _ heff hs => exact Nat.lt_trans (heff hnode hdrift hrange) (hs.reply_gt t (mem_replies.2 ht)).1
  | cons e pre ih =>
    cases hs with
    | issued _ h2 hs => exact ih _ (h2 ▸ hnode) hs
    | registered _ h2 _ hs => exact ih _ (h2 ▸ hnode) hs

/-- Every reply carries the clock's own node id. -/
theorem replies_node (reqs : List Req) (c : Nat) (hw : ∀ q ∈ reqs, q.WallOk) (hc : IsU64 c ∧ fractional c < 250)
    (t : Nat) (h : t ∈ replies (run (some c) reqs)) : node t = node c :=
  ((run_steps reqs c hw hc).reply_gt t h).2

/-- Defect D19 (pinned arms of the actor): a remote stamp 50 s ahead whose counter is `u16::MAX` is
dropped - the clock stays where it was and the next reply is BELOW the registered stamp; with the
counter at `u16::MAX - 1` the registration is taken and the next `get_time` stops the actor.  The
current arms move on to the next instant in both cases. -/
theorem legacy_drops_registration :
    let c := pack 1000000 0 1
    let r := pack 1050000 65535 2
    onRegisterLegacy c 1000000 r = c ∧ onGetLegacy c 1000000 = some (pack 1000000 1 1) ∧ pack 1000000 1 1 < r ∧
    onRegister c 1000000 r = pack 1050004 0 1 ∧ r < pack 1050004 0 1 ∧
    onGetLegacy (onRegisterLegacy c 1000000 (pack 1050000 65534 2)) 1000000 = none ∧
    onGet (onRegister c 1000000 (pack 1050000 65534 2)) 1000000 = some (pack 1050004 0 1) := by
  decide

example :
    replies (run (some (pack 1000000 0 1))
      [.get 1000000, .get 1000000, .register 1000000 (pack 1000400 9 7), .get 1000000, .get 999000]) =
      [pack 1000000 1 1, pack 1000000 2 1, pack 1000400 11 1, pack 1000400 12 1] := by decide

/-- The tree between the fixes D19 and D34: a wall clock that stepped back by two hours (an NTP
step, a resumed VM) made the next `Get` kill the actor, and so did a clock pinned exactly at the
drift limit once its counter values were used up; the repaired arm answers both with the stamp
following the clock. -/
theorem d19_get_dies_on_drift :
    onGetD19 (pack 10000000 0 1) 2800000 = none ∧
    onGet (pack 10000000 0 1) 2800000 = some (pack 10000000 1 1) ∧
    onGetD19 (pack (1000000 + MAX_CLOCK_DRIFT_MS) 65535 1) 1000000 = none ∧
    onGet (pack (1000000 + MAX_CLOCK_DRIFT_MS) 65535 1) 1000000 = some (pack (1000004 + MAX_CLOCK_DRIFT_MS) 0 1) := by
  decide


/-- The tree between the fixes D19 and D36: a remote stamp exactly AT the drift limit whose counter
is exhausted was dropped (the instant after it went through a second `recv`, which refused it as
beyond the drift), so the next `Get` answered BELOW a registered stamp that was not beyond the
drift; the repaired arm moves the clock to that instant. -/
theorem d19_drops_remote_at_the_limit :
    let c := pack 1000000 0 1
    let r := pack (1000000 + MAX_CLOCK_DRIFT_MS) 65535 2
    onRegisterD19 c 1000000 r = c ∧
    (onGet (onRegisterD19 c 1000000 r) 1000000).map (fun t => decide (r < t)) = some false ∧
    onRegister c 1000000 r = pack (1000004 + MAX_CLOCK_DRIFT_MS) 0 1 ∧
    (onGet (onRegister c 1000000 r) 1000000).map (fun t => decide (r < t)) = some true := by
  decide


end Datacake.C11
