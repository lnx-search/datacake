/-
C06 — A successful write has reached the replicas its consistency level promises.

Model: the keyspace handlers a replica runs for a replicated put / delete, with a possible storage
fault, and `handle_consistency_distribution` (`distributeAcks`).  The same over the executable cluster
(`Cluster.write`) is `Props/C06b.lean`; which replicas a level selects is `C15.select_sound`.
-/
import Datacake.Model.Cluster
import Datacake.Props.C02
import Datacake.Lemmas.Rep

namespace Datacake.C06
open Datacake.Lww Datacake.OrSwot Datacake.Storage Datacake.Keyspace Datacake.Cluster

/-- "Node `n` holds the mutation or a newer record for its id": its store's record of the id is at
least the mutation's. -/
def Holds (n : Node) (id rank : Nat) : Prop := AtLeast (storeView n.store id) rank

/-- A record `r` is `2·stamp` (+ 1 when live, `Spec/Lww.lean`): `ts ≤ r / 2` says its stamp is not below `ts`. -/
theorem ack_onOne_holds (F : Nat) (n : Node) (src : Nat) (o : Op) (bytes : List Nat) (fail : Bool)
    (h : Agree n) (hfresh : isBefore n.set.safe o.ts = false)
    (hack : (onOne F n src o bytes fail).2 = .ok) :
    ∃ r, storeView (onOne F n src o bytes fail).1.store o.key = some r ∧ o.ts ≤ r / 2 := by
  rw [onOne_snd] at hack
  rw [onOne_fst]
  cases hw : willApply n.set o.key o.ts with
  | true =>
    cases fail with
    | true => simp [hw] at hack
    | false =>
      rw [if_pos ⟨rfl, rfl⟩, storeView_write]
      exact ⟨_, rfl, le_half (deadRec_le_rank o)⟩
  | false =>
    obtain ⟨r, hr, hle⟩ := held_of_refused n.set o.key o.ts hfresh hw
    rw [if_neg (by simp), ← h.same]
    exact ⟨r, hr, le_half hle⟩

/-- A replica that acknowledges a replicated `put` holds the document or a record of that id with
a stamp at least as new: either the handler wrote it, or `will_apply` refused it because the
replica's record is already newer.  `hfresh`: the write is not older than the replica's purge
cut-off for its origin (`fresh_not_before`). -/
theorem ack_put_holds (F : Nat) (n : Node) (src : Nat) (d : Doc) (fail : Bool) (h : Agree n)
    (hfresh : isBefore n.set.safe d.2.1 = false)
    (hack : (onSet F n src d fail).2 = .ok) :
    ∃ r, storeView (onSet F n src d fail).1.store d.1 = some r ∧ d.2.1 ≤ r / 2 :=
  ack_onOne_holds F n src ⟨d.1, d.2.1, false⟩ d.2.2 fail h hfresh hack

/-- The same for a replicated delete. -/
theorem ack_del_holds (F : Nat) (n : Node) (src id ts : Nat) (fail : Bool) (h : Agree n)
    (hfresh : isBefore n.set.safe ts = false)
    (hack : (onDel F n src id ts fail).2 = .ok) :
    ∃ r, storeView (onDel F n src id ts fail).1.store id = some r ∧ ts ≤ r / 2 :=
  ack_onOne_holds F n src ⟨id, ts, true⟩ [] fail h hfresh hack

theorem ack_onBulk_holds {α : Type} {ent : α → Nat × Nat} (isDel : Bool) (bytes : α → List Nat) (F : Nat)
    (n : Node) (src : Nat) {docs : List α} (w : Option (List Nat)) (h : Agree n)
    (hnd : (docs.map (fun d => (ent d).1)).Nodup)
    (hfresh : ∀ d ∈ docs, isBefore n.set.safe (ent d).2 = false)
    (hack : (onBulk ent isDel bytes F n src docs w).2 = .ok) :
    ∀ d ∈ docs, ∃ r, storeView (onBulk ent isDel bytes F n src docs w).1.store (ent d).1 = some r ∧
      (ent d).2 ≤ r / 2 := by
  intro d hd
  cases w with
  | some idxs => cases hack
  | none =>
    obtain ⟨hs, _⟩ := storeView_foldl (fun d => opOf isDel (ent d)) bytes (admitted ent n.set docs)
      (List.Nodup.sublist (List.filter_sublist.map _) hnd) n.store h.data
    cases hw : willApply n.set (ent d).1 (ent d).2 with
    | true =>
      exact ⟨_, (hs (ent d).1).1 _ (List.mem_map_of_mem ((mem_admitted ent).2 ⟨hd, hw⟩)) rfl,
        le_half (deadRec_le_rank (opOf isDel (ent d)))⟩
    | false =>
      -- ids are distinct and `d` was refused, so no admitted document has its id: its row stays
      have hkeep := (hs (ent d).1).2 fun o ho hk => by
        obtain ⟨d', hd', rfl⟩ := List.mem_map.1 ho
        obtain ⟨hd1, hd2⟩ := (mem_admitted ent).1 hd'
        rw [eq_of_nodup_map _ docs hnd hd1 hd hk, hw] at hd2
        cases hd2
      obtain ⟨r, hr, hle⟩ := held_of_refused n.set _ _ (hfresh d hd) hw
      exact ⟨r, hkeep.trans ((h.same _).symm.trans hr), le_half hle⟩

/-- **distribute_spec**: the call returns `Ok` exactly when every selected replica acknowledged;
otherwise the error carries exactly the number of acknowledgements and of selected replicas. -/
theorem distribute_spec (acks : List Bool) :
    (distributeAcks acks = .ok () ↔ ∀ a ∈ acks, a = true) ∧
    (∀ r q, distributeAcks acks = .error (r, q) → r = (acks.filter id).length ∧ q = acks.length ∧ r < q) := by
  unfold distributeAcks
  split
  · rename_i h
    exact ⟨⟨fun _ => List.length_filter_eq_length_iff.1 h, fun _ => rfl⟩, nofun⟩
  · rename_i h
    refine ⟨⟨nofun, fun hall => absurd (List.length_filter_eq_length_iff.2 hall) h⟩, fun r q hh => ?_⟩
    cases hh
    exact ⟨rfl, rfl, Nat.lt_of_le_of_ne (List.length_filter_le _ _) h⟩

/-- **ok_means_stored**: if the issuer's local handler returned `Ok` and the distribution over the
selected replicas returned `Ok`, the issuer and every selected replica hold the document or a newer
record of that id. -/
theorem ok_means_stored (F : Nat) (issuer : Node) (replicas : List Node) (d : Doc)
    (fails : List Bool) (hlen : fails.length = replicas.length)
    (hagree : Agree issuer ∧ ∀ n ∈ replicas, Agree n)
    (hfresh : isBefore issuer.set.safe d.2.1 = false ∧ ∀ n ∈ replicas, isBefore n.set.safe d.2.1 = false)
    (hlocal : (onSet F issuer 0 d false).2 = .ok)
    (hdist : distributeAcks ((replicas.zip fails).map (fun p => decide ((onSet F p.1 0 d p.2).2 = .ok))) = .ok ()) :
    (∃ r, storeView (onSet F issuer 0 d false).1.store d.1 = some r ∧ d.2.1 ≤ r / 2) ∧
    ∀ p ∈ replicas.zip fails, ∃ r, storeView (onSet F p.1 0 d p.2).1.store d.1 = some r ∧ d.2.1 ≤ r / 2 := by
  refine ⟨ack_put_holds F issuer 0 d false hagree.1 hfresh.1 hlocal, fun p hp => ?_⟩
  have hin := (List.of_mem_zip hp).1
  exact ack_put_holds F p.1 0 d p.2 (hagree.2 _ hin) (hfresh.2 _ hin)
    (of_decide_eq_true ((distribute_spec _).1.1 hdist _ (List.mem_map.2 ⟨p, hp, rfl⟩)))

/-- What the issuer's own handler has put in place before any replica answers (the distribution does not
touch the issuer's node: `write_spec`, `Props/C06b.lean`). -/
theorem failure_keeps_local (F : Nat) (issuer : Node) (d : Doc) (h : Agree issuer)
    (hw : willApply issuer.set d.1 d.2.1 = true) :
    storeView (onSet F issuer 0 d false).1.store d.1 = some (liveRec d.2.1) ∧
    Agree (onSet F issuer 0 d false).1 := by
  refine ⟨?_, C02.agree_onSet F issuer 0 d false h⟩
  rw [onSet_eq, onOne_fst, if_pos ⟨hw, rfl⟩]
  exact storeView_write F issuer 0 ⟨d.1, d.2.1, false⟩ d.2.2

/-- `ack_put_holds` for a replica that represents what it applied and a write that is fresh for it. -/
theorem ack_put_holds_fresh (F : Nat) (n : Node) (A : List Op) (src : Nat) (d : Doc) (fail : Bool)
    (h : Agree n) (hr : Rep F n.set A)
    (hvalid : ∀ o ∈ A, o.ts < 18446744073709551616 ∧ Ts.fractional o.ts < 250)
    (hnew : ∀ o ∈ A, Ts.node o.ts = Ts.node d.2.1 → o.ts ≤ d.2.1)
    (hack : (onSet F n src d fail).2 = .ok) :
    ∃ r, storeView (onSet F n src d fail).1.store d.1 = some r ∧ d.2.1 ≤ r / 2 :=
  ack_put_holds F n src d fail h
    (fresh_not_before F n.set (Stamps A) hr.vers d.2.1 (by
      rintro m ⟨o, ho, rfl⟩
      exact ⟨hvalid o ho, hnew o ho⟩)) hack

example : distributeAcks [true, false] = .error (1, 2) ∧ distributeAcks [true, true] = .ok () ∧
    distributeAcks [] = .ok () := ⟨rfl, rfl, rfl⟩

/-- **distribute_replies**: whatever the selected replicas do before the deadline — acknowledge,
answer with an error, or stay silent — the call returns: `Ok` exactly when all of them
acknowledged, otherwise the consistency error with exactly the number that did. -/
theorem distribute_replies (rs : List Reply) :
    (distribute rs = .ok () ↔ ∀ r ∈ rs, r = .ack) ∧
    (∀ a q, distribute rs = .error (a, q) →
      a = (rs.filter (fun r => r == .ack)).length ∧ q = rs.length ∧ a < q) := by
  unfold distribute
  obtain ⟨h1, h2⟩ := distribute_spec (rs.map (fun r => r == .ack))
  refine ⟨by rw [h1]; simp only [List.forall_mem_map, beq_iff_eq], fun a q h => ?_⟩
  obtain ⟨ha, hq, hlt⟩ := h2 a q h
  exact ⟨by rw [ha, List.filter_map, List.length_map]; rfl, hq.trans (List.length_map _), hlt⟩

/-- **silent_is_counted_out**: a replica that stays silent makes the call fail with the count of
the others' acknowledgements; it does not make it wait. -/
theorem silent_is_counted_out (rs : List Reply) (h : Reply.silent ∈ rs) :
    ∃ a, distribute rs = .error (a, rs.length) ∧ a = (rs.filter (fun r => r == .ack)).length ∧ a < rs.length := by
  cases hd : distribute rs with
  | ok u => cases (distribute_replies rs).1.1 hd _ h
  | error e =>
    obtain ⟨ha, hq, hlt⟩ := (distribute_replies rs).2 e.1 e.2 hd
    exact ⟨e.1, by rw [← hq], ha, hq ▸ hlt⟩

/-- The pinned loop agrees with the current one whenever every replica answers. -/
theorem legacy_agrees_when_all_answer (rs : List Reply) (h : Reply.silent ∉ rs) :
    distributeLegacy rs = some (distribute rs) := by
  unfold distributeLegacy
  rw [if_neg (by simpa using h)]

/-- The pinned loop never returns when a replica stays silent (D18: the advertised timeout did not
exist): no consistency error, no `Ok`, nothing. -/
theorem legacy_blocks :
    distributeLegacy [.ack, .silent] = none ∧ distribute [.ack, .silent] = .error (1, 2) :=
  ⟨rfl, rfl⟩

end Datacake.C06
