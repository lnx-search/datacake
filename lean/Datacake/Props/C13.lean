/-
C13 — A message is served exactly when its service is currently registered.

Model: `Registry`, `addHandlers`, `removeHandlers`, `getHandler` in `Model/Rpc.lean`
(`ServerState` of `datacake-rpc/src/server.rs`).  A handler key stands for the request path
`/service/message` (the model numbers its keys); the path determines the service name
(`C13c.toUri_injective`), here the hypothesis `hdisj`: different service names own disjoint key sets.
The events are those of the general form (`Props/C13b.lean`) in which service `n` always registers
the keys `K n`.
-/
import Datacake.Props.C13b

namespace Datacake.C13
open Datacake.Rpc

/-- Registry events: `add n inst` = `Server::add_service` of an instance `inst` of the service
named `n`; `remove n` = `Server::remove_service(n)`. -/
inductive Ev where
  | add (n inst : Nat)
  | remove (n : Nat)

/-- `K n`: the handler keys of service `n`. -/
def step (K : Nat → List Nat) (st : Registry) : Ev → Registry
  | .add n inst => addHandlers st n (K n) inst
  | .remove n => removeHandlers st n

def run (K : Nat → List Nat) (evs : List Ev) : Registry := evs.foldl (step K) Registry.empty

/-- The specification: which instance of service `n` is registered after the events (the one of
the last `add n` not followed by a `remove n`), if any. -/
def specStep (f : Nat → Option Nat) : Ev → (Nat → Option Nat)
  | .add n inst => fun m => if m = n then some inst else f m
  | .remove n => fun m => if m = n then none else f m

def registered (evs : List Ev) : Nat → Option Nat := evs.foldl specStep (fun _ => none)

def lift (K : Nat → List Nat) : Ev → C13b.Ev
  | .add n inst => .add n (K n) inst
  | .remove n => .remove n

theorem run_eq (K : Nat → List Nat) (evs : List Ev) : run K evs = C13b.run (evs.map (lift K)) := by
  rw [run, C13b.run, List.foldl_map]
  congr; funext st e; cases e <;> rfl

theorem served_lift (K : Nat → List Nat) (hdisj : ∀ n n' k, k ∈ K n → k ∈ K n' → n = n') (owner : Nat → Nat)
    (ho : ∀ n k, k ∈ K n → owner k = n) (n k : Nat) (hk : k ∈ K n) (evs : List Ev) :
    C13b.served owner (evs.map (lift K)) k = registered evs n := by
  rw [C13b.served, List.foldl_map]
  refine List.foldl_rel (r := fun f g : Nat → Option Nat => f k = g n) rfl fun e _ f g h => ?_
  cases e with
  | add m inst =>
    show (if k ∈ K m then some inst else f k) = if n = m then some inst else g n
    by_cases hm : n = m
    · rw [if_pos (hm ▸ hk), if_pos hm]
    · rw [if_neg fun hkm => hm (hdisj n m k hk hkm), if_neg hm, h]
  | remove m =>
    show (if owner k = m then none else f k) = if n = m then none else g n
    rw [ho n k hk, h]

theorem served_foreign (K : Nat → List Nat) (owner : Nat → Nat) (k : Nat) (hk : ∀ n, k ∉ K n) (evs : List Ev) :
    C13b.served owner (evs.map (lift K)) k = none := by
  rw [C13b.served, List.foldl_map]
  refine List.foldlRecOn (motive := fun f : Nat → Option Nat => f k = none) evs _ rfl fun f h e _ => ?_
  cases e with
  | add m inst => exact (if_neg (hk m)).trans h
  | remove m => show (if owner k = m then none else f k) = none; rw [h, ite_self]

/-- **served_iff_registered**: after any sequence of adding and removing services, a request for
message key `k` of service `n` is dispatched to a handler iff `n` was added and not removed since —
and then to the handler of the most recently added instance; a key no service owns is never
served. -/
theorem served_iff_registered (K : Nat → List Nat)
    (hdisj : ∀ n n' k, k ∈ K n → k ∈ K n' → n = n') (evs : List Ev) :
    (∀ n k, k ∈ K n → getHandler (run K evs) k = registered evs n) ∧
    (∀ k, (∀ n, k ∉ K n) → getHandler (run K evs) k = none) := by
  obtain ⟨owner, ho⟩ : ∃ owner : Nat → Nat, ∀ n k, k ∈ K n → owner k = n :=
    (exists_fun_of_unique (fun k n => k ∈ K n) fun k n n' h h' => hdisj n n' k h h').imp fun _ h n k => h k n
  have h := C13b.served_iff_registered_general owner (evs.map (lift K)) <| List.forall_mem_map.2 fun e _ => by
    cases e with
    | add n inst => exact ho n
    | remove n => trivial
  rw [← run_eq] at h
  exact ⟨fun n k hk => (h k).trans (served_lift K hdisj owner ho n k hk evs),
    fun k hk => (h k).trans (served_foreign K owner k hk evs)⟩

theorem registered_snoc (evs : List Ev) (e : Ev) : registered (evs ++ [e]) = specStep (registered evs) e := by
  rw [registered, List.foldl_append]; rfl

/-- Removing one service never disables handlers of another … -/
theorem remove_does_not_disable_others (K : Nat → List Nat)
    (hdisj : ∀ n n' k, k ∈ K n → k ∈ K n' → n = n') (evs : List Ev) (n m k : Nat)
    (hk : k ∈ K m) (hmn : m ≠ n) :
    getHandler (run K (evs ++ [Ev.remove n])) k = getHandler (run K evs) k := by
  rw [(served_iff_registered K hdisj _).1 m k hk, (served_iff_registered K hdisj _).1 m k hk, registered_snoc]
  exact if_neg hmn

/-- … and never leaves behind handlers of the removed one. -/
theorem remove_leaves_nothing_behind (K : Nat → List Nat)
    (hdisj : ∀ n n' k, k ∈ K n → k ∈ K n' → n = n') (evs : List Ev) (n k : Nat) (hk : k ∈ K n) :
    getHandler (run K (evs ++ [Ev.remove n])) k = none := by
  rw [(served_iff_registered K hdisj _).1 n k hk, registered_snoc]
  exact if_pos rfl

/-- Defect D4 of the pinned tree (inverted `retain` predicate): after `add A, add B, remove A`
service A is still served and B is not. -/
theorem legacy_counterexample :
    let K : Nat → List Nat := fun n => if n = 0 then [10, 11] else if n = 1 then [20] else []
    let st := removeHandlersLegacy (addHandlers (addHandlers Registry.empty 0 (K 0) 100) 1 (K 1) 200) 0
    getHandler st 10 = some 100 ∧ getHandler st 20 = none ∧
    getHandler (run K [Ev.add 0 100, Ev.add 1 200, Ev.remove 0]) 10 = none ∧
    getHandler (run K [Ev.add 0 100, Ev.add 1 200, Ev.remove 0]) 20 = some 200 := by
  decide

end Datacake.C13
