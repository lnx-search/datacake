/-
C19 — A peer receives the sender's keyspace state unchanged.

What travels is a serialised `OrSWotSet<2>`: finite maps (`entries`, `dead`, one maximum map per
source, the safe cut-offs) and, implicitly, the number of sources.  `rkyv` (de)serialisation is a
codec assumption (`dec (enc s) = s` up to the order in which hash maps are iterated), observed on every run by the correspondence
check (real `GetState` round trip over loopback, states up to 20 000 entries).  What is proved
here is the part that is logic: a state whose maps answer every look-up like the sender's is
*observably identical* — same live ids, same tombstones, same stamps, same accept / refuse
decision for any further operation, and after any further operation the two are again
observably identical.  So "the maps were transferred" implies everything the property lists.
-/
import Datacake.Props.C05

namespace Datacake.C19
open Datacake.Lww Datacake.OrSwot Datacake.Map Datacake.Ts

/-- Two states answer every map look-up alike. -/
structure ObsEq (s s' : OrSwot) : Prop where
  entries : ∀ k, Map.get s.entries k = Map.get s'.entries k
  dead : ∀ k, Map.get s.dead k = Map.get s'.dead k
  safe : ∀ n, Map.get s.safe n = Map.get s'.safe n
  nsrc : s.maxs.length = s'.maxs.length
  maxs : ∀ i n, Map.get (s.maxs.getD i []) n = Map.get (s'.maxs.getD i []) n

theorem obs_refl (s : OrSwot) : ObsEq s s := ⟨fun _ => rfl, fun _ => rfl, fun _ => rfl, rfl, fun _ _ => rfl⟩

theorem obs_isBefore (s s' : OrSwot) (h : ObsEq s s') (t : Nat) : isBefore s.safe t = isBefore s'.safe t := by
  unfold isBefore; rw [h.safe]

/-- Same live ids with the same stamps, same tombstones, same predictions. -/
theorem obs_queries (s s' : OrSwot) (h : ObsEq s s') (k t : Nat) :
    OrSwot.get s k = OrSwot.get s' k ∧ view s k = view s' k ∧
    willApply s k t = willApply s' k t ∧ lacks s k t = lacks s' k t := by
  refine ⟨h.entries k, ?_, ?_, ?_⟩
  · rw [view_of_gets, view_of_gets, h.entries, h.dead]
  · unfold willApply; rw [obs_isBefore s s' h, h.entries, h.dead]
  · unfold lacks; rw [obs_isBefore s s' h, h.entries, h.dead]

/-- The difference computed against either state lists the same items, whichever side the
transferred state is on. -/
theorem obs_diff (a a' b b' : OrSwot) (ha : ObsEq a a') (hb : ObsEq b b') (k t : Nat) :
    ((k, t) ∈ (diff a b).1 ↔ (k, t) ∈ (diff a' b').1) ∧ ((k, t) ∈ (diff a b).2 ↔ (k, t) ∈ (diff a' b').2) := by
  have hl : C05.Lacks a k t ↔ C05.Lacks a' k t := by
    rw [← C05.lacks_iff, ← C05.lacks_iff, (obs_queries a a' ha k t).2.2.2]
  rw [(C05.diff_exact a b k t).1, (C05.diff_exact a' b' k t).1, (C05.diff_exact a b k t).2,
    (C05.diff_exact a' b' k t).2, hb.entries, hb.dead, hl]
  exact ⟨Iff.rfl, Iff.rfl⟩

theorem srcVals_eq (m m' : List Map) (hl : m.length = m'.length)
    (h : ∀ i n, Map.get (m.getD i []) n = Map.get (m'.getD i []) n) (nd : Nat) :
    srcVals m nd = srcVals m' nd := by
  unfold srcVals
  refine List.ext_getElem (by rw [List.length_map, List.length_map, hl]) fun i h1 h2 => ?_
  rw [List.getElem_map, List.getElem_map, List.getElem_eq_getD [], List.getElem_eq_getD [], h i nd]

theorem obs_computeSafe (F : Nat) {m m' : List Map} {sf sf' : Map} (nd : Nat) (hl : m.length = m'.length)
    (hm : ∀ i n, Map.get (m.getD i []) n = Map.get (m'.getD i []) n)
    (hs : ∀ n, Map.get sf n = Map.get sf' n) (n : Nat) :
    Map.get (computeSafe F m sf nd) n = Map.get (computeSafe F m' sf' nd) n := by
  rw [computeSafe_get, computeSafe_get, srcVals_eq m m' hl hm nd, hs n]

theorem obs_coreOp {isDel : Bool} {s s' : OrSwot} (h : ObsEq s s') {k t : Nat} :
    (coreOp isDel s k t).2 = (coreOp isDel s' k t).2 ∧
    ObsEq (coreOp isDel s k t).1 (coreOp isDel s' k t).1 := by
  have hcell : ∀ k, cell s k = cell s' k := fun k => Prod.ext (h.entries k) (h.dead k)
  obtain ⟨mx, sf, bool, key, fr⟩ := coreOp_spec isDel s k t
  obtain ⟨mx', sf', bool', key', fr'⟩ := coreOp_spec isDel s' k t
  have hc : ∀ k', cell (coreOp isDel s k t).1 k' = cell (coreOp isDel s' k t).1 k' := by
    intro k'
    by_cases hk : k' = k
    · rw [hk, key, key', hcell k]
    · rw [fr k' hk, fr' k' hk, hcell k']
  exact ⟨by rw [bool, bool', hcell k], fun k' => congrArg Prod.fst (hc k'),
    fun k' => congrArg Prod.snd (hc k'), sf ▸ sf' ▸ h.safe, mx ▸ mx' ▸ h.nsrc, mx ▸ mx' ▸ h.maxs⟩

theorem obs_bumped (F : Nat) (s s' : OrSwot) (h : ObsEq s s') (src ts : Nat) :
    ObsEq (bumped F s src ts) (bumped F s' src ts) := by
  have hlen : (bumped F s src ts).maxs.length = (bumped F s' src ts).maxs.length :=
    modifyNth_length.trans (h.nsrc.trans modifyNth_length.symm)
  have hmaxs : ∀ i n, Map.get ((bumped F s src ts).maxs.getD i []) n =
      Map.get ((bumped F s' src ts).maxs.getD i []) n := by
    intro i n
    simp only [bumped, modifyNth_getD, h.nsrc]
    split
    · rw [bumpMap_get_eq, bumpMap_get_eq, h.maxs i]
    · exact h.maxs i n
  exact ⟨h.entries, h.dead, obs_computeSafe F (node ts) hlen hmaxs h.safe, hlen, hmaxs⟩

/-- **obs_apply**: any further insert or delete — through any source — is accepted or refused
alike, returns the same Boolean, and leaves the two states observably identical again. -/
theorem obs_apply (F : Nat) (s s' : OrSwot) (h : ObsEq s s') (o : SrcOp) :
    (applyOp F s o).2 = (applyOp F s' o).2 ∧ ObsEq (applyOp F s o).1 (applyOp F s' o).1 := by
  have hb := obs_isBefore s s' h o.op.ts
  cases hbs : isBefore s.safe o.op.ts with
  | true => rw [applyOp_refused F s o hbs, applyOp_refused F s' o (hb ▸ hbs)]; exact ⟨rfl, h⟩
  | false =>
    rw [applyOp_accepted F s o hbs, applyOp_accepted F s' o (hb ▸ hbs)]
    exact obs_coreOp (obs_bumped F s s' h o.src o.op.ts)

/-- **obs_equiv_forever**: after ANY sequence of further operations the two states still give the
same answers. -/
theorem obs_equiv_forever (F : Nat) (ops : List SrcOp) (s s' : OrSwot) (h : ObsEq s s') :
    ObsEq (applyAll F s ops) (applyAll F s' ops) :=
  List.foldl_rel h fun o _ s s' h => (obs_apply F s s' h o).2

example : ObsEq ⟨[(1, 10), (2, 20)], [], [[], []], []⟩ ⟨[(2, 20), (1, 10)], [], [[], []], []⟩ := by
  refine ⟨fun k => ?_, fun _ => rfl, fun _ => rfl, rfl, fun _ _ => rfl⟩
  by_cases h1 : k = 1
  · subst h1; decide
  · by_cases h2 : k = 2
    · subst h2; decide
    · have e1 : ¬ 1 = k := fun e => h1 e.symm
      have e2 : ¬ 2 = k := fun e => h2 e.symm
      simp [Map.get, e1, e2]

end Datacake.C19
