/-
C05 — The computed difference is exactly what a replica lacks (this file); one exchange repairs
(`Props/C05b.lean` under the window alternative, `Props/C05c.lean` under the gap-free one).

Model: `OrSwot.diff` / `lacks` (`check_self_then_insert_to`) in `Model/Orswot.lean`.
-/
import Datacake.Lemmas.Apply

namespace Datacake.C05
open Datacake.Lww Datacake.OrSwot Datacake.Ts Datacake.Map

/-- "The replica `a` lacks the peer's record `(k, t)`": the peer's stamp is strictly newer than
what `a` holds for `k` (live entry first, else tombstone) or, if `a` holds nothing for `k`, is not
older than `a`'s purge cut-off for the stamp's origin node. -/
def Lacks (a : OrSwot) (k t : Nat) : Prop :=
  (∀ e, Map.get a.entries k = some e → e < t) ∧
  (Map.get a.entries k = none → ∀ d, Map.get a.dead k = some d → d < t) ∧
  (Map.get a.entries k = none → Map.get a.dead k = none → isBefore a.safe t = false)

theorem lacks_iff (a : OrSwot) (k t : Nat) : lacks a k t = true ↔ Lacks a k t := by
  unfold lacks Lacks
  cases Map.get a.entries k with
  | some e => simp
  | none => cases Map.get a.dead k <;> simp

theorem willApply_eq (s : OrSwot) (k t : Nat) : willApply s k t = (!isBefore s.safe t && lacks s k t) := by
  unfold willApply lacks
  cases isBefore s.safe t <;> rfl

/-- **diff_exact** (no hypotheses, any two states): the modifications are exactly the peer's live
entries the replica lacks, the removals exactly the peer's tombstones it lacks, each with the
peer's stamp. -/
theorem diff_exact (a b : OrSwot) (k t : Nat) :
    ((k, t) ∈ (diff a b).1 ↔ Map.get b.entries k = some t ∧ Lacks a k t) ∧
    ((k, t) ∈ (diff a b).2 ↔ Map.get b.dead k = some t ∧ Lacks a k t) := by
  constructor <;> simp [diff, List.mem_filter, mem_bindings, lacks_iff]

theorem diff_nodup (a b : OrSwot) :
    ((diff a b).1.map Prod.fst).Nodup ∧ ((diff a b).2.map Prod.fst).Nodup :=
  ⟨filter_bindings_nodup, filter_bindings_nodup⟩

/-- A key the peer holds live is never also listed as a removal, when the peer's state is
consistent (`Disj`): the two lists are about different keys. -/
theorem diff_disjoint (a b : OrSwot) (hb : Disj b) (k t t' : Nat)
    (h1 : (k, t) ∈ (diff a b).1) (h2 : (k, t') ∈ (diff a b).2) : False := by
  have e1 := ((diff_exact a b k t).1.1 h1).1
  have e2 := ((diff_exact a b k t').2.1 h2).1
  exact nomatch e1.symm.trans (hb.entries_none e2)

/-- `htie`: a tombstone of the replica with exactly the peer's stamp ranks below the live record but
is not "lacked". -/
theorem diff_lww (a b : OrSwot) (ha : Disj a) (k t : Nat) (hlive : Map.get b.entries k = some t)
    (htie : Map.get a.dead k ≠ some t) :
    (k, t) ∈ (diff a b).1 ↔
      (view a k ≠ none ∧ Newer (view a k) (liveRec t)) ∨
      (view a k = none ∧ isBefore a.safe t = false) := by
  rw [(diff_exact a b k t).1]
  simp only [hlive, true_and]
  unfold Lacks view
  rcases ha k with h | h
  · rw [h]
    cases hd : Map.get a.dead k with
    | none => simp
    | some d =>
      -- lacked: `d < t`; below the live record: `¬ t < d`; the two differ at `d = t` only
      rw [hd] at htie
      simp [newer_some, deadRec_lt_liveRec] at htie ⊢; omega
  · cases he : Map.get a.entries k with
    | none => simp [h]
    | some e => simp [newer_some, liveRec_lt_liveRec]

theorem lacks_iff_view {a : OrSwot} {k t : Nat} :
    Lacks a k t ↔
      ¬ AtLeast (view a k) (deadRec t) ∧ (view a k = none → isBefore a.safe t = false) := by
  unfold Lacks
  rw [view_of_gets]
  cases Map.get a.entries k with
  | some e => simp [atLeast_some, liveRec_lt_deadRec]
  | none => cases Map.get a.dead k <;> simp [atLeast_some, not_atLeast_none, deadRec_lt_deadRec]

/-- Applying one listed modification closes it: the entry is no longer lacking afterwards. -/
theorem applied_not_lacking_insert (F : Nat) (a : OrSwot) (src k t : Nat) (ha : Disj a)
    (hacc : isBefore a.safe t = false) :
    ¬ Lacks (insertWithSource F a src k t).1 k t := fun hl => by
  have h1 : view (insertWithSource F a src k t).1 k = join (view a k) (liveRec t) :=
    ((applyOp_step F a ⟨src, ⟨k, t, false⟩⟩ ha hacc).1 k).trans (if_pos rfl)
  refine (lacks_iff_view.1 hl).1 ?_
  rw [h1, join_eq_omax]
  exact AtLeast.omax_right ⟨_, rfl, Nat.le_succ _⟩ _

example :
    let t1 := pack 5000000 0 0
    let t2 := pack 5000004 0 1
    let a := (insertWithSource 3600000 (OrSwot.empty 2) 0 1 t1).1
    let b := (deleteWithSource 3600000 (insertWithSource 3600000 (insertWithSource 3600000
      (OrSwot.empty 2) 0 1 t1).1 0 2 t2).1 0 1 (pack 5000008 0 0)).1
    diff a b = ([(2, t2)], [(1, pack 5000008 0 0)]) ∧ diff b a = ([], []) := by
  decide

end Datacake.C05
