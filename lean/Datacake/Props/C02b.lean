/-
C02, unconditional form.

`agree_reachable` (Props/C02.lean) assumes, for every bulk request, that no element of the batch is
refused as too old when its turn comes.  Here that is PROVED for the batches the actor applies:
they are applied in ascending stamp order (`sort_by_key`), every element passed `will_apply` when
the request started, and the safe cut-offs of an actor's set are exact (`SafeExact`, an invariant of
every request handler).  What remains is that stamps are valid clock outputs.
-/
import Datacake.Props.C02
import Datacake.Lemmas.SafeExact

namespace Datacake.C02
open Datacake.Lww Datacake.OrSwot Datacake.Storage Datacake.Keyspace

/-- The premise of the property for one request: valid stamps.  (Until fix D13 a bulk request also
had to name every document at most once.) -/
def ReqValid : Req → Prop
  | .set _ d _ => ValidStamp d.2.1
  | .del _ _ ts _ => ValidStamp ts
  | .mset _ docs _ => ∀ d ∈ docs, ValidStamp d.2.1
  | .mdel _ docs _ => ∀ d ∈ docs, ValidStamp d.2
  | .purge _ => True

/-- Agreement together with the bookkeeping invariants that make it self-sustaining. -/
structure Good (F : Nat) (n : Node) : Prop where
  agree : Agree n
  exact : SafeExact F n.set
  maxs : GoodMaxs n.set

/-- The `hacc` of `agree_onBulk` (the `ReqOk` of `Props/C02.lean`), proved. -/
theorem accepted_batch (F : Nat) (s : OrSwot) (src : Nat) (isDel : Bool) (l : List (Nat × Nat))
    (he : SafeExact F s) (hg : GoodMaxs s) (hsorted : l.Pairwise (fun a b => a.2 ≤ b.2))
    (hok : ∀ e ∈ l, ValidStamp e.2 ∧ willApply s e.1 e.2 = true) :
    C04.Accepted F s (toOps src isDel l) :=
  accepted_sorted F _ s he hg (List.pairwise_map.2 hsorted)
    (List.forall_mem_map.2 fun e hel => ⟨(hok e hel).1, ((willApply_iff s e.1 e.2).1 (hok e hel).2).1⟩)

theorem good_onOne (F : Nat) (n : Node) (src : Nat) (o : Op) (bytes : List Nat) (fail : Bool)
    (h : Good F n) (hv : ValidStamp o.ts) : Good F (onOne F n src o bytes fail).1 := by
  rw [onOne_fst]
  split
  · rename_i hw
    obtain ⟨he, hg⟩ := safeExact_applyOp F n.set ⟨src, o⟩ h.exact h.maxs hv
    exact ⟨agree_write F n src o bytes h.agree hw.1, he, hg⟩
  · exact h

theorem good_onBulk {α : Type} {ent : α → Nat × Nat} (isDel : Bool) {bytes : α → List Nat} (F : Nat)
    (n : Node) (src : Nat) {docs : List α} (w : Option (List Nat)) (h : Good F n)
    (hnd : (docs.map (fun d => (ent d).1)).Nodup) (hval : ∀ d ∈ docs, ValidStamp (ent d).2) :
    Good F (onBulk ent isDel bytes F n src docs w).1 := by
  obtain ⟨l, w', e, hperm, hsorted, hlnd, hmem⟩ := onBulk_spec ent isDel bytes F n src docs w hnd
  have hok : ∀ e ∈ l, ValidStamp e.2 ∧ willApply n.set e.1 e.2 = true := fun e he => by
    obtain ⟨d, hd, rfl⟩ := List.mem_map.1 (hmem e he)
    exact ⟨hval d ((mem_admitted ent).1 hd).1, ((mem_admitted ent).1 hd).2⟩
  obtain ⟨he, hg⟩ := safeExact_applyAll F (toOps src isDel l) n.set h.exact h.maxs
    (List.forall_mem_map.2 fun e hel => (hok e hel).1)
  rw [e]
  exact ⟨agree_commit F n src isDel l ent bytes w' h.agree hperm hlnd (fun e he => (hok e he).2)
    (accepted_batch F n.set src isDel l h.exact h.maxs hsorted hok), he, hg⟩

theorem good_handle (F : Nat) (n : Node) (r : Req) (h : Good F n) (hv : ReqValid r) :
    Good F (handle F n r) := by
  cases r with
  | set src d fail => exact good_onOne F n src ⟨d.1, d.2.1, false⟩ d.2.2 fail h hv
  | del src id ts fail => exact good_onOne F n src ⟨id, ts, true⟩ [] fail h hv
  | mset src docs w =>
    rw [handle, onMultiSet, onMultiSetCore_eq]
    exact good_onBulk false F n src w h (newest_nodup _ docs) (fun d hd => hv d (newest_mem hd))
  | mdel src docs w =>
    rw [handle, onMultiDel, onMultiDelCore_eq]
    exact good_onBulk true F n src w h (newest_nodup _ docs) (fun d hd => hv d (newest_mem hd))
  | purge rm =>
    -- a purge does not touch the version bookkeeping
    have hsame : (handle F n (.purge rm)).set.maxs = n.set.maxs ∧ (handle F n (.purge rm)).set.safe = n.set.safe := by
      cases rm <;> exact ⟨rfl, rfl⟩
    exact ⟨agree_onPurge n rm h.agree, safeExact_congr F n.set _ hsame.1 hsame.2 h.exact, goodMaxs_congr n.set _ hsame.1 h.maxs⟩

def ReqsValid : List Req → Prop
  | [] => True
  | r :: rs => ReqValid r ∧ ReqsValid rs

/-- **agree_reachable_exact**: after every completed request of every history — single or bulk,
any stamps (any time span), origins and sources, in any arrival order, with storage failing at any
of the modelled points, bulk requests naming documents any number of times — a `Good` node (as the
empty one is) stays `Good`; the only premise on the requests is that stamps are valid clock outputs. -/
theorem agree_reachable_exact (F : Nat) (reqs : List Req) (n : Node) (h : Good F n)
    (hv : ReqsValid reqs) : Good F (reqs.foldl (handle F) n) := by
  induction reqs generalizing n with
  | nil => exact h
  | cons r rs ih => exact ih _ (good_handle F n r h hv.1) hv.2

theorem good_empty (F : Nat) : Good F {} := ⟨agree_empty, safeExact_empty F 2, goodMaxs_empty 2⟩

end Datacake.C02
