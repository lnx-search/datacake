/-
C05 (second part) — one exchange repairs.

`apply_diff_closes_partial`, `exchange_converges_partial`: under the window alternative of the
precondition, for replicas that represent what they applied (`Rep`, which every state reachable by
insert / delete / merge / diff-application is: `C03.reach_rep`, `applyAll_rep`).  The gap-free
alternative is `Props/C05c.lean`; both are instances of `Exchanged.closes` / `exchanged_dominates`
(`Lemmas/Exchange.lean` and below), which do not care how the items got accepted.
-/
import Datacake.Lemmas.Exchange

namespace Datacake.C05
open Datacake.Lww Datacake.OrSwot Datacake.Ts

/-- **apply_diff_closes_partial** (window alternative): apply the items of `diff a b` to `a` as
deletes / inserts — in ANY order (so: removals first, modifications first, or any interleaving of
the two batches), through any sources — and nothing is left to fetch from that peer. -/
theorem apply_diff_closes_partial (F : Nat) (hF : F % 4 = 0) (H : List Op) (hg : GoodHist H)
    (hw : WindowH F H) (a b : OrSwot) (A B : List Op) (ra : Rep F a A) (rb : Rep F b B)
    (hA : ∀ o ∈ A, o ∈ H) (hB : ∀ o ∈ B, o ∈ H)
    (order : List SrcOp) (hsub : ∀ o ∈ order, o.op ∈ diffOps a b)
    (hall : ∀ o ∈ diffOps a b, ∃ so ∈ order, so.op = o) :
    diff (applyAll F a order) b = ([], []) :=
  (exchanged_of_window F hF H hg hw a b A B ra rb hA hB order hsub hall).closes ra rb hB
    (sound_of_window hF hg hA hw ra.vers)

/-- No two different operations of the history on one key carry the same stamp (clocks issue
unique stamps; a bulk operation may reuse its stamp across *different* keys). -/
def KeyStampDistinct (H : List Op) : Prop :=
  ∀ o ∈ H, ∀ o' ∈ H, o.key = o'.key → o.ts = o'.ts → o = o'

/-- After an exchange the replica's record of every key is the newer of its own and the peer's:
nothing but its own operations and the peer's has been applied, and what it has learnt of the
peer's record is that record itself — a record with the same stamp on the same key is the same
operation. -/
theorem exchanged_dominates {F : Nat} {a b s' : OrSwot} {A B H A' : List Op}
    (ex : Exchanged a b A s' A') (ra : Rep F a A) (rb : Rep F b B)
    (hA : ∀ o ∈ A, o ∈ H) (hB : ∀ o ∈ B, o ∈ H) (snd : Sound a A H) (hd : KeyStampDistinct H)
    (k : Nat) : view s' k = omax (view a k) (view b k) := by
  have hAB : ∀ o ∈ A', o ∈ A ++ B := fun o ho => List.mem_append.2 <| ((ex.mem o).1 ho).imp_right fun h =>
    op_of_rec rb _ (mem_diffOps.1 h).1
  rw [ex.view, ra.view, rb.view, ← lww_append]
  refine eq_of_atLeast_iff fun x => ?_
  rw [atLeast_lww, atLeast_lww]
  constructor
  · exact fun ⟨o, ho, h⟩ => ⟨o, hAB o ho, h⟩
  · rintro ⟨o, ho, hk, hx⟩
    rcases List.mem_append.1 ho with h' | h'
    · exact ⟨o, (ex.mem o).2 (Or.inl h'), hk, hx⟩
    · -- `b`'s record of `k` stems from some `ob ∈ B`; of it the replica has learnt an `o3` as new by stamp
      obtain ⟨y, hy, hle⟩ := lww_ge B k o h' hk
      obtain ⟨ob, hob, hkb, rfl⟩ := lww_mem hy
      have hrec : HasRec b k ob.ts ob.isDel :=
        (hasRec_iff_view rb.disj).2 (by rw [rb.view, hy]; rfl)
      obtain ⟨o3, ho3, hk3, hle3⟩ := atLeast_lww.1 (ex.view k ▸ ex.learns ra rb hB snd k ob.ts ob.isDel hrec)
      have ho3H : o3 ∈ H := (List.mem_append.1 (hAB o3 ho3)).elim (hA _) (hB _)
      have hrank : rank ob ≤ rank o3 :=
        rank_le_of_ts_le (ts_le_of_le_rank hle3) (hd ob (hB _ hob) o3 ho3H (hkb.trans hk3.symm))
      exact ⟨o3, ho3, hk3, Nat.le_trans hx (Nat.le_trans hle hrank)⟩

/-- After the exchange the replica's record dominates the peer's, by rank. -/
theorem exchange_dominates (F : Nat) (hF : F % 4 = 0) (H : List Op) (hg : GoodHist H)
    (hw : WindowH F H) (hd : KeyStampDistinct H) (a b : OrSwot) (A B : List Op) (ra : Rep F a A)
    (rb : Rep F b B) (hA : ∀ o ∈ A, o ∈ H) (hB : ∀ o ∈ B, o ∈ H)
    (order : List SrcOp) (hsub : ∀ o ∈ order, o.op ∈ diffOps a b)
    (hall : ∀ o ∈ diffOps a b, ∃ so ∈ order, so.op = o) (k : Nat) :
    view (applyAll F a order) k = omax (view a k) (view b k) :=
  exchanged_dominates (exchanged_of_window F hF H hg hw a b A B ra rb hA hB order hsub hall) ra rb hA hB
    (sound_of_window hF hg hA hw ra.vers) hd k

/-- **exchange_converges_partial**: two replicas that each apply their difference against the
other (in any order of items) expose identical records — same live ids, same stamps. -/
theorem exchange_converges_partial (F : Nat) (hF : F % 4 = 0) (H : List Op) (hg : GoodHist H)
    (hw : WindowH F H) (hd : KeyStampDistinct H) (a b : OrSwot) (A B : List Op) (ra : Rep F a A)
    (rb : Rep F b B) (hA : ∀ o ∈ A, o ∈ H) (hB : ∀ o ∈ B, o ∈ H)
    (oa ob : List SrcOp)
    (ha1 : ∀ o ∈ oa, o.op ∈ diffOps a b) (ha2 : ∀ o ∈ diffOps a b, ∃ so ∈ oa, so.op = o)
    (hb1 : ∀ o ∈ ob, o.op ∈ diffOps b a) (hb2 : ∀ o ∈ diffOps b a, ∃ so ∈ ob, so.op = o) (k : Nat) :
    view (applyAll F a oa) k = view (applyAll F b ob) k ∧
    OrSwot.get (applyAll F a oa) k = OrSwot.get (applyAll F b ob) k := by
  have hv : view (applyAll F a oa) k = view (applyAll F b ob) k := by
    rw [exchange_dominates F hF H hg hw hd a b A B ra rb hA hB oa ha1 ha2 k,
      exchange_dominates F hF H hg hw hd b a B A rb ra hB hA ob hb1 hb2 k, omax_comm]
  exact ⟨hv, get_of_view _ _ k hv⟩

end Datacake.C05
