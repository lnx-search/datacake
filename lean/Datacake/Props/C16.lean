/-
C16 — Membership change events add up to the live membership.

Model: `Model/Membership.lean` (`watchStep`/`delta` = `membership_delta`, the latest-value
channel carrying snapshots, the per-subscriber `MembershipChanges` stream, a subscriber applying
`left` then `joined`).  Lists are read as sets / maps: all statements are about membership.
-/
import Datacake.Lemmas.Membership

namespace Datacake.C16
open Datacake.Membership

def SameSet (a b : List Member) : Prop := ∀ m, m ∈ a ↔ m ∈ b

/-- The watcher remembers the snapshot it processed last. -/
def WatcherOk (w : Watcher) : Prop := w.lastSet = networkSet w.self w.lastSnap ∧ DistinctIds w.lastSnap

theorem watchStep_delta (w : Watcher) (snap : Snapshot) (hw : WatcherOk w) (hs : DistinctIds snap) :
    (watchStep w snap).1 = ⟨diffSet (networkSet w.self snap) (networkSet w.self w.lastSnap),
      diffSet (networkSet w.self w.lastSnap) (networkSet w.self snap)⟩ := by
  have sub (a b) : ∀ x ∈ diffSet (networkSet w.self a) b, x ∈ a := fun _ hx =>
    (networkSet_mem.1 (diffSet_mem.1 hx).1).1
  simp only [watchStep, hw.1, filterMap_lookupId hw.2 (sub _ _), filterMap_lookupId hs (sub _ _)]

/-- **delta_exact**: `left` is exactly the members of the previous snapshot (other than the local
node) that are absent or re-addressed in the new one — *with the address they had* —, `joined` is
exactly the new or re-addressed members; the watcher then remembers the new snapshot. -/
theorem delta_exact (w : Watcher) (snap : Snapshot) (hw : WatcherOk w) (hs : DistinctIds snap) :
    (∀ m, m ∈ (watchStep w snap).1.left ↔
        (m ∈ w.lastSnap ∧ m.1 ≠ w.self) ∧ ¬ (m ∈ snap ∧ m.1 ≠ w.self)) ∧
    (∀ m, m ∈ (watchStep w snap).1.joined ↔
        (m ∈ snap ∧ m.1 ≠ w.self) ∧ ¬ (m ∈ w.lastSnap ∧ m.1 ≠ w.self)) ∧
    WatcherOk (watchStep w snap).2 ∧ (watchStep w snap).2.self = w.self ∧
    (watchStep w snap).2.lastSnap = snap := by
  rw [watchStep_delta w snap hw hs]
  refine ⟨fun m => ?_, fun m => ?_, ⟨rfl, hs⟩, rfl, rfl⟩ <;> rw [diffSet_mem, networkSet_mem, networkSet_mem]

/-- **delta_applies**: applying the published delta to a live map that holds the previous
membership yields exactly the new membership (joins, leaves, address changes, rejoin alike). -/
theorem delta_applies (w : Watcher) (snap : Snapshot) (hw : WatcherOk w) (hs : DistinctIds snap)
    (live : List Member) (hlive : SameSet live (networkSet w.self w.lastSnap)) :
    SameSet (applyDelta live (watchStep w snap).1) (networkSet w.self snap) := by
  rw [watchStep_delta w snap hw hs]
  exact applyDelta_diff (distinct_networkSet _ _ hw.2) (distinct_networkSet _ _ hs) hlive

/-- **delta_between**: the difference between any two snapshots, applied to a live map that holds
the other members of the first, yields the other members of the second. -/
theorem delta_between (self : Nat) (last snap : Snapshot) (hl : DistinctIds last) (hs : DistinctIds snap)
    (live : List Member) (hlive : SameSet live (networkSet self last)) :
    SameSet (applyDelta live (delta self last snap)) (networkSet self snap) :=
  delta_applies { self := self, lastSet := networkSet self last, lastSnap := last } snap ⟨rfl, hl⟩ hs live hlive

/-- What happens around one node's membership channel: the node's watcher publishes the snapshot
it has processed, a new subscriber appears (at any time), subscriber `i` polls its stream. -/
inductive Ev where
  | pub (snap : Snapshot)
  | sub
  | read (i : Nat)

structure World where
  chan : Chan := {}
  subs : List Sub := []

def step (self : Nat) (w : World) : Ev → World
  | .pub snap => { w with chan := w.chan.send snap }
  | .sub => { w with subs := w.subs ++ [{}] }
  | .read i =>
    match w.subs[i]? with
    | some s => { w with subs := w.subs.set i (s.poll self w.chan).2 }
    | none => w

def run (self : Nat) (evs : List Ev) : World := evs.foldl (step self) {}

/-- Snapshots have distinct ids (they are `BTreeMap`s keyed by node id). -/
def ValidEv : Ev → Prop
  | .pub snap => DistinctIds snap
  | _ => True

/-- The subscriber's live map holds exactly the other members of the snapshot its stream handed
out last; that snapshot is the channel's if the subscriber has seen the channel's version; and it has
seen no version the channel has not reached yet (so a publication makes the channel's version unseen). -/
def SubOk (self : Nat) (c : Chan) (s : Sub) : Prop :=
  SameSet s.live (networkSet self s.last) ∧ DistinctIds s.last ∧
  (s.seen = some c.version → s.last = c.value) ∧ (∀ v, s.seen = some v → v ≤ c.version)

def WorldOk (self : Nat) (w : World) : Prop :=
  DistinctIds w.chan.value ∧ ∀ s ∈ w.subs, SubOk self w.chan s

theorem subOk_new (self : Nat) (c : Chan) : SubOk self c {} :=
  ⟨fun _ => .rfl, nofun, nofun, nofun⟩

theorem subOk_poll (self : Nat) (c : Chan) (s : Sub) (hc : DistinctIds c.value) (h : SubOk self c s) :
    SubOk self c (s.poll self c).2 ∧ (s.poll self c).2.last = c.value := by
  by_cases hseen : s.seen = some c.version
  · rw [Sub.poll_seen hseen]
    exact ⟨h, h.2.2.1 hseen⟩
  · rw [Sub.poll_unseen hseen]
    exact ⟨⟨delta_between self s.last c.value h.2.1 hc s.live h.1, hc, fun _ => rfl,
      fun v hv => Option.some.inj hv ▸ Nat.le_refl _⟩, rfl⟩

theorem subOk_send (self : Nat) (c : Chan) (snap : Snapshot) (s : Sub) (h : SubOk self c s) :
    SubOk self (c.send snap) s :=
  ⟨h.1, h.2.1, fun hv => absurd (h.2.2.2 _ hv) (Nat.not_succ_le_self _),
    fun v hv => Nat.le_succ_of_le (h.2.2.2 v hv)⟩

theorem worldOk_step (self : Nat) (w : World) (e : Ev) (hv : ValidEv e) (h : WorldOk self w) :
    WorldOk self (step self w e) := by
  obtain ⟨hc, hs⟩ := h
  cases e with
  | pub snap => exact ⟨hv, fun s hs' => subOk_send self w.chan snap s (hs s hs')⟩
  | sub => exact ⟨hc, List.forall_mem_append.2 ⟨hs, List.forall_mem_singleton.2 (subOk_new self w.chan)⟩⟩
  | read i =>
    simp only [step]
    split
    next s0 hi =>
      refine ⟨hc, fun s hs' => ?_⟩
      rcases List.mem_or_eq_of_mem_set hs' with h | rfl
      · exact hs s h
      · exact (subOk_poll self w.chan s0 hc (hs s0 (List.mem_of_getElem? hi))).1
    next => exact ⟨hc, hs⟩

theorem worldOk_run (self : Nat) (evs : List Ev) (hv : ∀ e ∈ evs, ValidEv e) : WorldOk self (run self evs) :=
  evs.foldlRecOn (step self) ⟨nofun, nofun⟩ fun w hw e he => worldOk_step self w e (hv e he) hw

theorem run_snoc (self : Nat) (evs : List Ev) (e : Ev) : run self (evs ++ [e]) = step self (run self evs) e :=
  List.foldl_append

theorem step_read (self : Nat) (w : World) (i : Nat) :
    (step self w (.read i)).chan = w.chan ∧
    (step self w (.read i)).subs[i]? = w.subs[i]?.map fun s => (s.poll self w.chan).2 := by
  simp only [step]
  split
  next s hi => exact ⟨rfl, by rw [List.getElem?_set_self (List.getElem?_eq_some_iff.1 hi).1, hi]; rfl⟩
  next hi => exact ⟨rfl, by rw [hi]; rfl⟩

/-- **subscriber_tracks** (C16, full statement): whatever the order of publications, subscriptions
and reads — subscribers created late, subscribers that skip any number of publications — right
after a read the subscriber's live map holds exactly the other members of the CURRENT membership. -/
theorem subscriber_tracks (self : Nat) (evs : List Ev) (hv : ∀ e ∈ evs, ValidEv e) (i : Nat) (s : Sub)
    (hs : (run self (evs ++ [.read i])).subs[i]? = some s) :
    SameSet s.live (networkSet self (run self evs).chan.value) ∧
    (run self (evs ++ [.read i])).chan = (run self evs).chan := by
  have hw := worldOk_run self evs hv
  obtain ⟨hchan, hsub⟩ := step_read self (run self evs) i
  rw [run_snoc] at hs ⊢
  rw [hsub, Option.map_eq_some_iff] at hs
  obtain ⟨s0, hi, rfl⟩ := hs
  obtain ⟨hok, hlast⟩ := subOk_poll self _ s0 hw.1 (hw.2 s0 (List.mem_of_getElem? hi))
  exact ⟨hlast ▸ hok.1, hchan⟩

/-- Between reads nothing is lost either: at any time every subscriber holds the other members of
SOME published snapshot (the one it read last), never a mixture. -/
theorem subscriber_consistent (self : Nat) (evs : List Ev) (hv : ∀ e ∈ evs, ValidEv e) (s : Sub)
    (hs : s ∈ (run self evs).subs) : SameSet s.live (networkSet self s.last) :=
  ((worldOk_run self evs hv).2 s hs).1

example : ((run 0 [.pub [(0, 100), (1, 101)], .pub [(0, 100), (1, 101), (2, 102)], .sub, .read 0]).subs.map (·.live))
    = [[(1, 101), (2, 102)]] := by decide

/-! ### The tree before the fix for D9: deltas on the latest-value channel lose members -/

def runLegacy (self : Nat) (script : List (Option Snapshot)) : ChanLegacy × SubLegacy × Snapshot :=
  -- `some snap` = a publication, `none` = the subscriber reads
  let r := script.foldl (fun (st : Watcher × ChanLegacy × SubLegacy) ev =>
    match ev with
    | some snap => let (d, w') := watchStep st.1 snap; (w', st.2.1.send d, st.2.2)
    | none => (st.1, st.2.1, (st.2.2.poll st.2.1).2)) ({ self := self }, {}, {})
  (r.2.1, r.2.2, r.1.lastSnap)

/-- (Before the fix.) A subscriber that does not read between two publications loses the first
delta: after `{0,1}` and `{0,1,2}` it only ever learns of node 2 — although it read twice at the end. -/
theorem legacy_slow_subscriber_counterexample :
    (runLegacy 0 [some [(0, 100), (1, 101)], some [(0, 100), (1, 101), (2, 102)], none, none]).2.1.live
      = [(2, 102)] := by decide

/-- (Before the fix.) A subscriber created after node 1 joined never hears of it (the stream
starts with the latest delta only).  The eventual-consistency extension always subscribes late. -/
theorem legacy_late_subscriber_counterexample :
    let w0 : Watcher := { self := 0 }
    let (d1, w1) := watchStep w0 [(0, 100), (1, 101)]
    let (d2, _) := watchStep w1 [(0, 100), (1, 101), (2, 102)]
    let c := (({} : ChanLegacy).send d1).send d2
    let late : SubLegacy := {}
    (late.poll c).2.live = [(2, 102)] := by decide

/-- Defect D8 of the pinned tree: a real departure produced an empty `left`. -/
theorem legacy_departure_lost :
    let w0 : Watcher := { self := 0 }
    let (_, w1) := watchStepLegacy w0 [(0, 100), (1, 101)]
    (watchStepLegacy w1 [(0, 100)]).1.left = [] ∧ (watchStep ((watchStep w0 [(0, 100), (1, 101)]).2) [(0, 100)]).1.left = [(1, 101)] := by
  decide

example : WatcherOk { self := 0 } ∧ DistinctIds [(0, 100), (1, 101)] := by
  refine ⟨⟨rfl, nofun⟩, ?_⟩
  unfold DistinctIds
  decide

end Datacake.C16
