/-
C12, the whole exchange: `Model/Exchange.lean` composes the receive loop (`to_aligned`), the frame
check (`DataView::using`), the handler table and the error path (`create_bad_request`, the archive of
`Status`, the client's reading of it) into one function.  The theorems hold for EVERY message body and
EVERY way the two bodies are cut into chunks on the wire; `exchange` announces the true length, server
and client taken apart do the same under every announced length.
-/
import Datacake.Model.Exchange
import Datacake.Props.C12

namespace Datacake.C12b
open Datacake.Rpc Datacake.Exchange Datacake.C12

/-- **toAligned_bytes**: whatever the chunks and whatever was announced, the buffer holds exactly the
bytes that arrived, in order. -/
theorem toAligned_bytes (chunks : List (List Nat)) (hint : Nat) :
    (toAligned chunks hint).1 = chunks.flatten := by
  match chunks with
  | [] => rfl
  | [a] => simp [toAligned]
  | a :: b :: rest => simp [toAligned, List.foldl_append_eq_append (f := fun buf => buf)]

/-- **toAligned_capacity** (D33): what is reserved before the data has arrived never exceeds the data that
does arrive by more than 1 MiB, whatever the peer announced. -/
theorem toAligned_capacity (chunks : List (List Nat)) (hint : Nat) :
    (toAligned chunks hint).2 ≤ (chunks.flatten).length + 1048576 := by
  match chunks with
  | [] => exact Nat.zero_le _
  | [a] => simp [toAligned]
  | a :: b :: rest =>
    simp only [toAligned, MAX_PREALLOC, List.flatten_cons, List.length_append]
    omega

/-- Before the fix for D33 a two byte body under an announced length `n` reserved `n` bytes. -/
theorem legacy_capacity_unbounded (n : Nat) : n ≤ (toAlignedLegacy [[0], [0]] n).2 :=
  Nat.le_add_left ..

theorem cut_flatten (sizes : List Nat) (bytes : List Nat) : (cut sizes bytes).flatten = bytes := by
  induction sizes generalizing bytes with
  | nil => cases bytes <;> simp [cut]
  | cons n rest ih => cases bytes <;> simp [cut, ih]

theorem byteAt_append_right (pre root : List Nat) (i : Nat) :
    byteAt (pre ++ root) (pre.length + i) = byteAt root i := by
  unfold byteAt
  rw [List.getD_eq_getElem?_getD, List.getElem?_append_right (Nat.le_add_right ..), Nat.add_sub_cancel_left,
    ← List.getD_eq_getElem?_getD]

theorem readRoot_fields (pre repr : List Nat) (c p1 p2 p3 : Nat) (hr : repr.length = 8) :
    readRoot (pre ++ c :: p1 :: p2 :: p3 :: repr) =
      if 5 ≤ c then none
      else if byteAt repr 7 < 128 then
        if byteAt repr 7 ≤ 7 then some (c, repr.take (byteAt repr 7)) else none
      else
        let back := 4294967296 - fromLe32 (repr.drop 4)
        if back ≤ pre.length + 4 ∧ (pre.length + 4 - back) + fromLe32 (repr.take 4) ≤ pre.length then
          some (c, ((pre ++ c :: p1 :: p2 :: p3 :: repr).drop (pre.length + 4 - back)).take (fromLe32 (repr.take 4)))
        else none := by
  have hlen : (pre ++ c :: p1 :: p2 :: p3 :: repr).length = pre.length + STATUS_FIXED := by
    simp only [List.length_append, List.length_cons, hr]; rfl
  unfold readRoot
  rw [hlen, if_neg (Nat.not_lt.2 (Nat.le_add_left ..)), Nat.add_sub_cancel]
  simp only [INLINE_CAP, List.drop_length_add_append, byteAt_append_right]
  rw [List.take_of_length_le (l := List.drop 8 _) (by rw [List.length_drop]; simp [hr]), ← Nat.add_zero pre.length,
    byteAt_append_right]
  rfl

theorem pad_aligned (a n : Nat) (ha : 0 < a) : (n + (a - n % a) % a) % a = 0 := by
  rw [Nat.add_mod_mod, ← Nat.mod_add_mod, Nat.add_sub_cancel' (Nat.le_of_lt (Nat.mod_lt n ha)), Nat.mod_self]

theorem length_append_zeros (m : List Nat) (k : Nat) : (m ++ zeros k).length = m.length + k := by
  rw [List.length_append, zeros, List.length_replicate]

theorem archive_inline (c : Nat) (m : List Nat) (hm : m.length ≤ 7) :
    archive c m = c :: 0 :: 0 :: 0 :: (m ++ zeros (7 - m.length) ++ [m.length]) :=
  if_pos hm

theorem archive_outline (c : Nat) (m : List Nat) (hm : 7 < m.length) :
    archive c m = (m ++ zeros (pad4 m.length)) ++
      c :: 0 :: 0 :: 0 :: (le32 m.length ++ le32 (4294967296 - (m.length + pad4 m.length + 4))) :=
  if_neg (Nat.not_le.2 hm)

theorem archive_shape (c : Nat) (m : List Nat) :
    STATUS_FIXED ≤ (archive c m).length ∧ ((archive c m).length - STATUS_FIXED) % STATUS_ALIGN = 0 := by
  by_cases hm : m.length ≤ 7
  · have : (archive c m).length = 12 := by
      rw [archive_inline c m hm]
      simp only [zeros, List.length_append, List.length_cons, List.length_nil, List.length_replicate]
      omega
    rw [this]; exact ⟨Nat.le_refl _, rfl⟩
  · have : (archive c m).length = m.length + pad4 m.length + STATUS_FIXED := by
      rw [archive_outline c m (Nat.not_le.1 hm), List.length_append, length_append_zeros]; rfl
    rw [this, Nat.add_sub_cancel]
    exact ⟨Nat.le_add_left .., pad_aligned 4 m.length (by decide)⟩

/-- The relative pointer to data `K` bytes in front of it, as rkyv writes it (an `i32`, negative);
the top bit of its last byte is set. -/
theorem relptr (K : Nat) (h1 : 0 < K) (h2 : K ≤ 2147483648) :
    4294967296 - K < 4294967296 ∧ 2147483648 ≤ 4294967296 - K ∧ 4294967296 - (4294967296 - K) = K ∧
      ¬ (4294967296 - K) / 16777216 % 256 < 128 := by
  omega

/-- **readRoot_archive**: the bytes rkyv writes for `Status { code, message }` read back as the same
code and the same message - for each of the five codes and every message below 2 GiB, inline or not.
`+ 8`: the relative pointer goes back over the message, its padding (at most 3) and the 4 bytes of the code,
and has to fit an `i32`. -/
theorem readRoot_archive (c : Nat) (m : List Nat) (hc : c < 5) (hl : m.length + 8 ≤ 2147483648) :
    readRoot (archive c m) = some (c, m) := by
  by_cases hm : m.length ≤ 7
  · have hz : (m ++ zeros (7 - m.length)).length = 7 := by rw [length_append_zeros, Nat.add_sub_cancel' hm]
    have h7 : byteAt (m ++ zeros (7 - m.length) ++ [m.length]) 7 = m.length := by
      have := byteAt_append_right (m ++ zeros (7 - m.length)) [m.length] 0
      rwa [hz] at this
    rw [archive_inline c m hm, ← List.nil_append (c :: _),
      readRoot_fields [] _ c 0 0 0 (by rw [List.length_append, hz]; rfl), h7, if_neg (Nat.not_le.2 hc),
      if_pos (by omega), if_pos hm, List.append_assoc, List.take_left]
  · have hp : pad4 m.length < 4 := Nat.mod_lt _ (by decide)
    have hlen : m.length < 4294967296 := by omega
    rw [archive_outline c m (Nat.not_le.1 hm)]
    generalize hK : m.length + pad4 m.length + 4 = K
    obtain ⟨k1, _, k3, k4⟩ := relptr K (hK ▸ Nat.succ_pos _) (by omega)
    rw [readRoot_fields _ _ c 0 0 0 rfl,
      show byteAt (le32 m.length ++ le32 (4294967296 - K)) 7 = (4294967296 - K) / 16777216 % 256 from rfl,
      List.take_left' length_le32, List.drop_left' length_le32, fromLe32_le32 k1, fromLe32_le32 hlen,
      if_neg (Nat.not_le.2 hc), if_neg k4, k3, length_append_zeros, hK]
    simp only
    rw [if_pos ⟨Nat.le_refl K, by simp⟩, Nat.sub_self, List.drop_zero, List.append_assoc, List.take_left]

/-- Two different errors never share a frame body. -/
theorem archive_injective (c c' : Nat) (m m' : List Nat) (hc : c < 5) (hc' : c' < 5)
    (hl : m.length + 8 ≤ 2147483648) (hl' : m'.length + 8 ≤ 2147483648)
    (h : archive c m = archive c' m') : c = c' ∧ m = m' := by
  exact Prod.mk.inj (Option.some.inj ((readRoot_archive c m hc hl).symm.trans (h ▸ readRoot_archive c' m' hc' hl')))

/-- **status_reaches_client**: the frame `create_bad_request` sends, cut into chunks in any way and
under any announced length, is read by the client as the status the server meant. -/
theorem status_reaches_client (fixed align c : Nat) (m : List Nat) (hc : c < 5) (hl : m.length + 8 ≤ 2147483648)
    (chunks : List (List Nat)) (hint : Nat) (hch : chunks.flatten = statusFrame c m) :
    client fixed align 400 chunks hint = .status c m := by
  unfold client
  simp only [toAligned_bytes, hch, statusFrame]
  rw [if_neg (by decide)]
  have hs := archive_shape c m
  rw [frame_roundtripA STATUS_FIXED STATUS_ALIGN (archive c m) hs.1 hs.2]
  simp only [readRoot_archive c m hc hl]

/-- Well-formedness of what a handler may answer: one of the five codes, a message below 2 GiB. -/
def StatusOk (c : Nat) (m : List Nat) : Prop := c < 5 ∧ m.length + 8 ≤ 2147483648

/-- **exchange_reply**: the handler ran once, on exactly the body the client framed, and the client
got exactly the reply archive the handler produced - for every chunking of both directions. -/
theorem exchange_reply (table : List Nat → Option Handler) (path : List Nat) (h : Handler)
    (rf ra : Nat) (b r : List Nat) (reqCuts respCuts : List Nat)
    (ht : table path = some h) (hb : h.fixed ≤ b.length) (hba : (b.length - h.fixed) % h.align = 0)
    (hrun : h.run b = .ok r) (hr : rf ≤ r.length) (hra : (r.length - rf) % ra = 0) :
    exchange table path rf ra (mkFrame b) reqCuts respCuts = (.reply r, [b]) := by
  unfold exchange server
  simp only [ht, toAligned_bytes, cut_flatten, frame_roundtripA h.fixed h.align b hb hba, hrun]
  unfold client
  simp only [toAligned_bytes, cut_flatten, if_true, frame_roundtripA rf ra r hr hra]

/-- **exchange_error**: a handler error reaches the client with the same code and message. -/
theorem exchange_error (table : List Nat → Option Handler) (path : List Nat) (h : Handler)
    (rf ra : Nat) (b : List Nat) (c : Nat) (m : List Nat) (reqCuts respCuts : List Nat)
    (ht : table path = some h) (hb : h.fixed ≤ b.length) (hba : (b.length - h.fixed) % h.align = 0)
    (hrun : h.run b = .error (c, m)) (hs : StatusOk c m) :
    exchange table path rf ra (mkFrame b) reqCuts respCuts = (.status c m, [b]) := by
  unfold exchange server
  simp only [ht, toAligned_bytes, cut_flatten, frame_roundtripA h.fixed h.align b hb hba, hrun, badRequest]
  rw [status_reaches_client rf ra c m hs.1 hs.2 _ _ (cut_flatten _ _)]

/-- **exchange_refused**: whatever bytes arrive as a request - a flipped bit, a truncation, a misplaced
root - if `DataView::using` refuses them, NO handler runs and the client is told `InvalidPayload`. -/
theorem exchange_refused (table : List Nat → Option Handler) (path : List Nat) (h : Handler)
    (rf ra : Nat) (frame : List Nat) (reqCuts respCuts : List Nat)
    (ht : table path = some h) (hbad : checkFrameA h.fixed h.align frame = none) :
    exchange table path rf ra frame reqCuts respCuts = (.status INVALID_PAYLOAD invalidMsg, []) := by
  unfold exchange server
  simp only [ht, toAligned_bytes, cut_flatten, hbad, badRequest]
  rw [status_reaches_client rf ra _ _ (by decide) (by decide) _ _ (cut_flatten _ _)]

/-- **exchange_unknown**: a path nobody registered: `ServiceUnavailable`, naming the path; nothing ran.
`+ 24`: the 16 bytes of `unknownPrefix` and the `+ 8` of `readRoot_archive`. -/
theorem exchange_unknown (table : List Nat → Option Handler) (path : List Nat)
    (rf ra : Nat) (frame : List Nat) (reqCuts respCuts : List Nat)
    (ht : table path = none) (hp : path.length + 24 ≤ 2147483648) :
    exchange table path rf ra frame reqCuts respCuts = (.status SERVICE_UNAVAILABLE (unknownPrefix ++ path), []) := by
  unfold exchange server
  simp only [ht, badRequest]
  rw [status_reaches_client rf ra _ _ (by decide) (by simp [unknownPrefix]; omega) _ _ (cut_flatten _ _)]

/-- `single_bit_flip_rejected` carried through the exchange. -/
theorem exchange_bit_flip (table : List Nat → Option Handler) (path : List Nat) (h : Handler)
    (rf ra : Nat) (b : List Nat) (j i : Nat) (reqCuts respCuts : List Nat)
    (ht : table path = some h) (hj : j < (mkFrame b).length) (hi : i < 8) :
    exchange table path rf ra (flipBit (mkFrame b) j i) reqCuts respCuts = (.status INVALID_PAYLOAD invalidMsg, []) :=
  exchange_refused table path h rf ra _ reqCuts respCuts ht
    (checkA_none_of_check_none _ _ _ (single_bit_flip_rejected h.fixed b j i hj hi))

/-- **cutAt_flatten**: the chunks `cutAt` makes, put together again, are the bytes. -/
theorem cutAt_flatten (positions : List Nat) (bytes : List Nat) : (cutAt positions bytes).flatten = bytes := by
  rw [cutAt]
  refine (List.foldlRecOn (motive := fun r : List (List Nat) × Nat => r.1.flatten = bytes.take r.2) _ _ rfl
    fun acc hacc p _ => ?_).trans ?_
  · split
    · rw [List.flatten_append, hacc, List.flatten_singleton, ← List.take_add, Nat.add_sub_cancel' (Nat.le_of_lt ‹_›)]
    · exact hacc
  · -- the last position is the end of the bytes: what the fold has cut by then is all of them
    rw [List.foldl_append, List.foldl_cons, List.foldl_nil]
    split
    · exact List.take_length
    · exact List.take_of_length_le (Nat.not_lt.1 ‹_›)

/-- `short_frame_rejected` carried through the exchange. -/
theorem exchange_short (table : List Nat → Option Handler) (path : List Nat) (h : Handler)
    (rf ra : Nat) (frame : List Nat) (reqCuts respCuts : List Nat)
    (ht : table path = some h) (hshort : frame.length < h.fixed + 4) :
    exchange table path rf ra frame reqCuts respCuts = (.status INVALID_PAYLOAD invalidMsg, []) :=
  exchange_refused table path h rf ra frame reqCuts respCuts ht
    (checkA_none_of_check_none _ _ _ (short_frame_rejected h.fixed frame hshort))

/-- **reply_damaged_refused**: the REPLY direction.  Whatever arrives as the body of a 200 answer, if
`DataView::using` refuses it for the reply type, the client reports `InvalidPayload`. -/
theorem reply_damaged_refused (rf ra : Nat) (chunks : List (List Nat)) (hint : Nat)
    (hbad : checkFrameA rf ra chunks.flatten = none) :
    client rf ra 200 chunks hint = .status INVALID_PAYLOAD invalidMsg := by
  unfold client
  simp only [toAligned_bytes, if_true, hbad]

/-- … in particular a reply frame with one bit flipped anywhere (body or trailer), in any chunking. -/
theorem reply_bit_flip_refused (rf ra : Nat) (r : List Nat) (j i : Nat) (chunks : List (List Nat)) (hint : Nat)
    (hj : j < (mkFrame r).length) (hi : i < 8) (hch : chunks.flatten = flipBit (mkFrame r) j i) :
    client rf ra 200 chunks hint = .status INVALID_PAYLOAD invalidMsg :=
  reply_damaged_refused rf ra chunks hint
    (by rw [hch]; exact checkA_none_of_check_none _ _ _ (single_bit_flip_rejected rf r j i hj hi))

/-- A reply the client hands out is the body of a frame that passed the check: its bytes are exactly
the bytes in front of a matching trailer. -/
theorem reply_only_from_valid_frame (rf ra http : Nat) (chunks : List (List Nat)) (hint : Nat) (body : List Nat)
    (h : client rf ra http chunks hint = .reply body) :
    http = 200 ∧ checkFrameA rf ra chunks.flatten = some body := by
  unfold client at h
  simp only [toAligned_bytes] at h
  split at h
  · rename_i h200
    split at h
    · rename_i b hc; cases h; exact ⟨h200, hc⟩
    · cases h
  · split at h
    · cases h
    · split at h <;> cases h

/-- **server_any_chunks**: what the server does depends on the bytes that arrived, not on how they
were cut or what was announced (so the exchange theorems hold for the chunks of `cutAt` and of the
real transport alike). -/
theorem server_any_chunks (table : List Nat → Option Handler) (path : List Nat)
    (chunks chunks' : List (List Nat)) (hint hint' : Nat) (h : chunks.flatten = chunks'.flatten) :
    server table path chunks hint = server table path chunks' hint' := by
  unfold server
  simp only [toAligned_bytes, h]

/-- **exchange_any_cuts**: the outcome of an exchange - what the handler ran on, what the client got -
is the same for EVERY way of cutting the two bodies on the wire: chunk boundaries (HTTP/2 DATA
frames, TCP segments, a slow peer) carry no meaning. -/
theorem exchange_any_cuts (table : List Nat → Option Handler) (path : List Nat) (rf ra : Nat) (frame : List Nat)
    (c1 c2 c1' c2' : List Nat) :
    exchange table path rf ra frame c1 c2 = exchange table path rf ra frame c1' c2' := by
  unfold exchange server client
  simp only [toAligned_bytes, cut_flatten]

/-- an echo handler for a 4 byte root, a failing one that answers with a 13 byte message -/
def echoH : Handler := ⟨4, 4, fun b => .ok b⟩
def failH : Handler := ⟨4, 4, fun b => .error (3, b ++ b ++ b ++ [33])⟩

example : exchange (fun _ => some echoH) [1] 4 4 (mkFrame [1, 2, 3, 4, 5, 6, 7, 8]) [0, 2] [3]
    = (.reply [1, 2, 3, 4, 5, 6, 7, 8], [[1, 2, 3, 4, 5, 6, 7, 8]]) :=
  exchange_reply _ _ echoH 4 4 _ _ _ _ rfl (by decide) (by decide) rfl (by decide) (by decide)

example : exchange (fun _ => some failH) [1] 4 4 (mkFrame [1, 2, 3, 4]) [1] [0, 0, 5]
    = (.status 3 [1, 2, 3, 4, 1, 2, 3, 4, 1, 2, 3, 4, 33], [[1, 2, 3, 4]]) :=
  exchange_error _ _ failH 4 4 _ _ _ _ _ rfl (by decide) (by decide) rfl (by unfold StatusOk; decide)

example : StatusOk 1 [] ∧ StatusOk 4 [97, 98, 99, 100, 101, 102, 103] ∧ StatusOk 0 [97, 98, 99, 100, 101, 102, 103, 104] := by
  unfold StatusOk; decide

end Datacake.C12b
