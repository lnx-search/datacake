/-
C10 — Timestamp encoding is lossless and order-preserving; parsing never panics.

Model: `Datacake/Model/Timestamp.lean`.  `fromStr` is the parser of the current tree (after the `fix:`
commits for D2 and D25); `fromStrLegacy` is the pinned parser and `fromStrNormalising` the one between the
two fixes, kept for the witnesses at the end.
-/
import Datacake.Lemmas.Timestamp
import Datacake.Lemmas.TimestampText
import Datacake.Lemmas.LittleEndian

namespace Datacake.C10
open Datacake.Ts

/-- What `HLCTimestamp::new` accepts and `duration_to_parts` can produce. -/
structure ValidFields (secs frac ctr nd : Nat) : Prop where
  secs : secs < 4294967296
  frac : frac < 250
  ctr : ctr < 65536
  nd : nd < 256

def ValidTs (t : Nat) : Prop := t < 18446744073709551616 ∧ fractional t < 250

/-- **fields_roundtrip**: the accessors return exactly the fields that were packed, and `new` accepts them. -/
theorem fields_roundtrip (secs frac ctr nd : Nat) (h : ValidFields secs frac ctr nd) :
    new? (partsAsDuration secs frac) ctr nd = some (pack (partsAsDuration secs frac) ctr nd) ∧
    seconds (pack (partsAsDuration secs frac) ctr nd) = secs ∧
    fractional (pack (partsAsDuration secs frac) ctr nd) = frac ∧
    counter (pack (partsAsDuration secs frac) ctr nd) = ctr ∧
    node (pack (partsAsDuration secs frac) ctr nd) = nd ∧
    dts (pack (partsAsDuration secs frac) ctr nd) = partsAsDuration secs frac ∧
    ValidTs (pack (partsAsDuration secs frac) ctr nd) := by
  obtain ⟨e1, e2⟩ := dur_parts secs frac h.frac
  have hs : durSecs (partsAsDuration secs frac) ≤ TIMESTAMP_MAX := Nat.le_of_lt_succ (lt_of_eq_of_lt e1 h.secs)
  obtain ⟨f1, f2, f3, f4⟩ := pack_fields _ ctr nd hs h.ctr h.nd
  obtain ⟨g1, _, _, g4, g5⟩ := pack_spec _ ctr nd hs h.ctr h.nd (parts_mod4 secs frac)
  exact ⟨new?_of_le hs, f1.trans e1, f2.trans e2, f3, f4, g1, g4, g5⟩

/-- Every valid packed value is the packing of its own fields: the accessors lose nothing. -/
theorem repack (t : Nat) (h : ValidTs t) :
    pack (dts t) (counter t) (node t) = t :=
  Ts.repack t h.1 h.2

/-- **archive_roundtrip**: the archived form (8 little-endian bytes) casts back to the same value. -/
theorem archive_roundtrip (t : Nat) (h : t < 18446744073709551616) :
    unarchive (archive t) = t ∧ (archive t).length = 8 ∧ ∀ b ∈ archive t, b < 256 := by
  rw [archive, ← LittleEndian.toBytes_eq_map]
  exact ⟨LittleEndian.ofBytes_toBytes 8 t h, LittleEndian.length_toBytes 8 t, LittleEndian.toBytes_lt 8 t⟩

/-- **ts_order_lex**: comparing packed values is comparing (seconds, fractional) — i.e. time at
4 ms resolution —, then counter, then node id, lexicographically. -/
theorem ts_order_lex (a b : Nat) :
    a < b ↔ seconds a < seconds b ∨ (seconds a = seconds b ∧ (fractional a < fractional b ∨
      (fractional a = fractional b ∧ (counter a < counter b ∨
        (counter a = counter b ∧ node a < node b))))) :=
  lt_iff_lex a b

/-- The same for timestamps built from valid fields, in terms of the time in milliseconds. -/
theorem ts_order_time (a b : Nat) (ha : ValidTs a) (hb : ValidTs b) :
    a < b ↔ dts a < dts b ∨ (dts a = dts b ∧ (counter a < counter b ∨
      (counter a = counter b ∧ node a < node b))) :=
  lt_iff_time a b ha.2 hb.2

/-- **display_parse_all**: printing then parsing is the identity on EVERY 64-bit value - also on
a stamp whose fractional byte is outside its canonical range (fix D25: the fields go back exactly
where `Display` took them from). -/
theorem display_parse_all (t : Nat) (h64 : t < 18446744073709551616) : fromStr (display t) = .ok t := by
  -- no field's text holds a `-`, so `splitn` returns the four texts; each parses to its field; `decomp` adds them up
  have hs := (seconds_lt_iff t).2 h64
  have hsplit := splitn_four (showNat 10 (seconds t)) (pad4 (showNat 10 (fractional t)))
    (pad4 (showNat 16 (counter t))) (pad4 (showNat 10 (node t)))
    (fun c h => (padded_chars 10 (seconds t) 0 (by decide) (by decide) c h).1)
    (fun c h => (padded_chars 10 (fractional t) _ (by decide) (by decide) c h).1)
    (fun c h => (padded_chars 16 (counter t) _ (by decide) (by decide) c h).1)
  have p1 : parseUnsigned 10 (U64 - 1) (showNat 10 (seconds t)) = _ :=
    parse_padded 10 0 (by decide) (by decide) (by omega)
  have p2 : parseUnsigned 10 255 (pad4 (showNat 10 (fractional t))) = _ :=
    parse_padded 10 _ (by decide) (by decide) (Nat.le_of_lt_succ (fractional_lt t))
  have p3 : parseUnsigned 16 65535 (pad4 (showNat 16 (counter t))) = _ :=
    parse_padded 16 _ (by decide) (by decide) (Nat.le_of_lt_succ (counter_lt t))
  have p4 : parseUnsigned 10 255 (pad4 (showNat 10 (node t))) = _ :=
    parse_padded 10 _ (by decide) (by decide) (Nat.le_of_lt_succ (node_lt t))
  unfold fromStr display
  rw [hsplit]
  simp only [p1, p2, p3, p4]
  rw [if_neg (Nat.not_lt.2 (Nat.le_of_lt_succ hs)), ← decomp t]

/-- **display_parse**: printing then parsing is the identity on valid timestamps. -/
theorem display_parse (t : Nat) (h : ValidTs t) : fromStr (display t) = .ok t :=
  display_parse_all t h.1

/-- **parse_total**: on every text whatsoever the parser returns a timestamp or `InvalidFormat`;
no `assert!`, no `Duration` arithmetic is left on the path. -/
theorem parse_total (s : List Char) : fromStr s ≠ .panic := by
  unfold fromStr
  repeat' split
  all_goals (intro h; cases h)

theorem parse_u64 (s : List Char) (t : Nat) (h : fromStr s = .ok t) : t < 18446744073709551616 := by
  unfold fromStr at h
  split at h
  · split at h
    next hb hc hd =>
      have hfrac := parseUnsigned_le hb
      have hctr := parseUnsigned_le hc
      have hnd := parseUnsigned_le hd
      split at h <;> cases h
      omega
    · cases h
  · cases h

/-- Defect D2 of the pinned tree: out-of-range seconds reach the `assert!` in `HLCTimestamp::new`
(`"4294967296-0000-0000-0000"`), also through normalisation of a fractional ≥ 250
(`"4294967295-0250-0000-0000"`).  The current parser reports `InvalidFormat` for the first and reads the
second as written (since D25: seconds 4294967295, fractional 250). -/
theorem legacy_parse_panics :
    fromStrLegacy ['4', '2', '9', '4', '9', '6', '7', '2', '9', '6', '-', '0', '0', '0', '0', '-', '0', '0', '0', '0', '-', '0', '0', '0', '0'] = .panic ∧
    fromStrLegacy ['4', '2', '9', '4', '9', '6', '7', '2', '9', '5', '-', '0', '2', '5', '0', '-', '0', '0', '0', '0', '-', '0', '0', '0', '0'] = .panic ∧
    fromStr ['4', '2', '9', '4', '9', '6', '7', '2', '9', '6', '-', '0', '0', '0', '0', '-', '0', '0', '0', '0', '-', '0', '0', '0', '0'] = .invalid ∧
    fromStr ['4', '2', '9', '4', '9', '6', '7', '2', '9', '5', '-', '0', '2', '5', '0', '-', '0', '0', '0', '0', '-', '0', '0', '0', '0'] = .ok 18446744073608888320 := by
  refine ⟨by decide, by decide, by decide, by decide⟩

/-- Defect D25 (the parser between the fixes for D2 and D25): the text of a stamp whose fractional
byte is 250 did not read back as written - `5-0250-0007-0003` came back as `6-0000-0007-0003` - and
at the top of the seconds range it did not read back at all. -/
theorem legacy_parse_normalises :
    fromStrNormalising (display 25669142275) = .ok 25769805571 ∧ fromStr (display 25669142275) = .ok 25669142275 ∧
    fromStrNormalising (display 18446744073608888320) = .invalid ∧
    fromStr (display 18446744073608888320) = .ok 18446744073608888320 := by
  refine ⟨by decide, by decide, by decide, by decide⟩

example : ValidTs (pack 1002953500 48647 2) ∧
    display (pack 1002953500 48647 2) = ['1', '0', '0', '2', '9', '5', '3', '-', '0', '1', '2', '5', '-', 'B', 'E', '0', '7', '-', '0', '0', '0', '2'] ∧
    archive (pack 1002953500 48647 2) = [2, 7, 190, 125, 201, 77, 15, 0] := by
  refine ⟨⟨by decide, by decide⟩, by decide, by decide⟩

/-- The parser accepts a leading `+`, lower-case hex and un-normalised fractions, like Rust. -/
example : fromStr ['1', '-', '0', '2', '5', '5', '-', 'f', 'f', '-', '+', '1'] = .ok (1 * 4294967296 + 255 * 16777216 + 255 * 256 + 1) := by decide

end Datacake.C10
