/-
C13, general form — several service *types* may be registered under one service name (each with
its own message types); `remove_service(name)` must then remove the handlers of every one of them,
and still nothing else.

`add n keys inst`: `Server::add_service` of an instance `inst` of a service type named `n` whose
handler keys are `keys`.  `owner k` is the service name a key belongs to (a key stands for the request
path `/name/message`, which determines the name: `C13c.toUri_injective`).
-/
import Datacake.Lemmas.Registry

namespace Datacake.C13b
open Datacake.Rpc

inductive Ev where
  | add (n : Nat) (keys : List Nat) (inst : Nat)
  | remove (n : Nat)

def step (st : Registry) : Ev → Registry
  | .add n keys inst => addHandlers st n keys inst
  | .remove n => removeHandlers st n

def run (evs : List Ev) : Registry := evs.foldl step Registry.empty

/-- The specification, per handler key: the instance of the last registration that contained the
key, unless its service name has been removed since. -/
def specStep (owner : Nat → Nat) (f : Nat → Option Nat) : Ev → (Nat → Option Nat)
  | .add _ keys inst => fun k => if k ∈ keys then some inst else f k
  | .remove n => fun k => if owner k = n then none else f k

def served (owner : Nat → Nat) (evs : List Ev) : Nat → Option Nat :=
  evs.foldl (specStep owner) (fun _ => none)

/-- Every registration registers keys of its own name. -/
def WellOwned (owner : Nat → Nat) : Ev → Prop
  | .add n keys _ => ∀ k ∈ keys, owner k = n
  | .remove _ => True

/-- What is listed under a name is owned by it, so that `removeHandlers`, which removes by that list, removes
exactly the keys the specification drops. -/
structure Inv (owner : Nat → Nat) (st : Registry) (f : Nat → Option Nat) : Prop where
  handlers : ∀ k, lookup st.handlers k = f k
  listed : ∀ k i, f k = some i → ∃ ks, lookup st.services (owner k) = some ks ∧ k ∈ ks
  owned : ∀ n ks, lookup st.services n = some ks → ∀ k ∈ ks, owner k = n

theorem Inv.owner_of_mem {owner : Nat → Nat} {st : Registry} {f : Nat → Option Nat} (h : Inv owner st f)
    (n k : Nat) (hk : k ∈ (lookup st.services n).getD []) : owner k = n := by
  cases hl : lookup st.services n <;> rw [hl] at hk
  · cases hk
  · exact h.owned n _ hl k hk

theorem Inv.mem_keys {owner : Nat → Nat} {st : Registry} {f : Nat → Option Nat} (h : Inv owner st f)
    (k i : Nat) (hk : f k = some i) : k ∈ (lookup st.services (owner k)).getD [] := by
  obtain ⟨ks, e1, e2⟩ := h.listed k i hk
  rw [e1]; exact e2

theorem inv_step (owner : Nat → Nat) (st : Registry) (f : Nat → Option Nat) (h : Inv owner st f)
    (e : Ev) (hw : WellOwned owner e) : Inv owner (step st e) (specStep owner f e) := by
  cases e with
  | add n keys inst =>
    simp only [step, specStep]
    constructor
    · intro k
      rw [handlers_addHandlers, h.handlers]
    · intro k i hk
      rw [services_addHandlers]
      by_cases hkk : k ∈ keys
      · exact ⟨_, if_pos (hw k hkk), List.mem_append_left _ hkk⟩
      · have hfk : f k = some i := (if_neg hkk).symm.trans hk
        by_cases hon : owner k = n
        · exact ⟨_, if_pos hon, List.mem_append_right _ (hon ▸ h.mem_keys k i hfk)⟩
        · rw [if_neg hon]; exact h.listed k i hfk
    · intro m ks hm k hk
      rw [services_addHandlers] at hm
      by_cases hmn : m = n
      · subst hmn
        rw [if_pos rfl] at hm; cases hm
        exact (List.mem_append.1 hk).elim (hw k) (h.owner_of_mem m k)
      · rw [if_neg hmn] at hm; exact h.owned m ks hm k hk
  | remove n =>
    simp only [step, specStep]
    constructor
    · intro k
      rw [handlers_removeHandlers, h.handlers]
      by_cases hk : k ∈ (lookup st.services n).getD []
      · rw [if_pos hk, if_pos (h.owner_of_mem n k hk)]
      · rw [if_neg hk]
        by_cases hon : owner k = n
        · -- nothing of `n` is served that is not listed under `n`
          rw [if_pos hon]
          cases hfk : f k with
          | none => rfl
          | some i => exact absurd (hon ▸ h.mem_keys k i hfk) hk
        · rw [if_neg hon]
    · intro k i hk
      rw [services_removeHandlers]
      by_cases hon : owner k = n
      · cases (if_pos hon).symm.trans hk
      · rw [if_neg hon]; exact h.listed k i ((if_neg hon).symm.trans hk)
    · intro m ks hm k hk
      rw [services_removeHandlers] at hm
      by_cases hmn : m = n
      · rw [if_pos hmn] at hm; cases hm
      · rw [if_neg hmn] at hm; exact h.owned m ks hm k hk

theorem inv_run (owner : Nat → Nat) (evs : List Ev) (hw : ∀ e ∈ evs, WellOwned owner e) :
    Inv owner (run evs) (served owner evs) :=
  List.foldl_rel (r := Inv owner) ⟨fun _ => rfl, fun _ _ => nofun, fun _ _ => nofun⟩
    fun e he st f h => inv_step owner st f h e (hw e he)

/-- **served_iff_registered_general**: after any sequence of registrations and removals — several
service types under one name included — a request with handler key `k` is dispatched iff some
registration containing `k` happened after the last removal of `k`'s service name, and then to the
most recent such instance. -/
theorem served_iff_registered_general (owner : Nat → Nat) (evs : List Ev)
    (hw : ∀ e ∈ evs, WellOwned owner e) (k : Nat) :
    getHandler (run evs) k = served owner evs k :=
  (inv_run owner evs hw).handlers k

theorem getHandler_snoc_remove (owner : Nat → Nat) (evs : List Ev) (hw : ∀ e ∈ evs, WellOwned owner e) (n k : Nat) :
    getHandler (run (evs ++ [Ev.remove n])) k = if owner k = n then none else getHandler (run evs) k := by
  have h := inv_run owner evs hw
  rw [run, List.foldl_append, ← run, getHandler, getHandler, h.handlers k]
  exact (inv_step owner _ _ h (.remove n) trivial).handlers k

/-- Removing a name removes the handlers of EVERY registration under it … -/
theorem remove_leaves_nothing_behind_general (owner : Nat → Nat) (evs : List Ev)
    (hw : ∀ e ∈ evs, WellOwned owner e) (n k : Nat) (hk : owner k = n) :
    getHandler (run (evs ++ [Ev.remove n])) k = none := by
  rw [getHandler_snoc_remove owner evs hw, if_pos hk]

/-- … and nothing of any other name. -/
theorem remove_does_not_disable_others_general (owner : Nat → Nat) (evs : List Ev)
    (hw : ∀ e ∈ evs, WellOwned owner e) (n k : Nat) (hk : owner k ≠ n) :
    getHandler (run (evs ++ [Ev.remove n])) k = getHandler (run evs) k := by
  rw [getHandler_snoc_remove owner evs hw, if_neg hk]

/-- Two service types (keys 5 and 6) registered under one name (3), a bystander (key 9,
name 4); removing name 3 removes both and keeps the bystander. -/
example :
    let evs := [Ev.add 3 [5] 100, Ev.add 4 [9] 200, Ev.add 3 [6] 101]
    getHandler (run evs) 5 = some 100 ∧ getHandler (run evs) 6 = some 101 ∧
    getHandler (run (evs ++ [Ev.remove 3])) 5 = none ∧ getHandler (run (evs ++ [Ev.remove 3])) 6 = none ∧
    getHandler (run (evs ++ [Ev.remove 3])) 9 = some 200 := by decide

end Datacake.C13b
