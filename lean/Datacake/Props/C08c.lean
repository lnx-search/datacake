/-
C08, the chain — the executable cluster model refines the timed cluster of `Props/C08b.lean`.

`Props/C08b.lean` proves, for an abstract TIMED cluster (events `apply`, `exchange`, `purge` with a
global time, delay and skew bounds), that purging at arbitrary moments is invisible when every
operation reaches every replica in time.  As for C01 (`Props/C01d.lean`), what is run against the
code is the executable `Model/Cluster.lean`: its steps are events of the timed cluster with the same
effect on every node's (possibly purged) set.  The timing conditions of `apply` events are the premise
of the property, not something the model can derive.  The relation is equality of the sets; of the
lists `(a x).A` of the timed cluster nothing is said.
-/
import Datacake.Lemmas.ClusterSets
import Datacake.Props.C08b

namespace Datacake.C08c
open Datacake.Lww Datacake.OrSwot Datacake.Keyspace Datacake.Storage Datacake.Cluster Datacake.C05 Datacake.C01d

/-- The admissibility condition of `C08b.Ev.exchange`. -/
theorem repairOps_sub_diffOps (c : Cluster) (j i : Nat) (rf : Bool) (hagree : Agree (getNode c i).ks) :
    ∀ so ∈ repairOps c j i rf, so.op ∈ diffOps (absSet c j) (absSet c i) :=
  fun so hso => mem_diffOps.2 (repairOps_diff c j i rf hagree so hso)

theorem purge_sets (c : Cluster) (j : Nat) (h : j < c.nodes.length) (x : Nat) :
    absSet (Cluster.purge c j) x = if x = j then (purgeOldDeletes (absSet c j)).1 else absSet c x := by
  have H : KsUpd j (onPurge (getNode (touch c j) j).ks none).1 c (Cluster.purge c j) :=
    (touch_upd c j).trans (setNode_upd (touch c j) j
      { getNode (touch c j) j with ks := (onPurge (getNode (touch c j) j).ks none).1 } (touch_length c j ▸ h))
  rw [(touch_fields c j j).1] at H
  exact H.sets x

/-- **exchange_refines_timed**: one exchange of the executable model is an admissible `exchange` event
of the timed cluster, with the same effect on every node's set. -/
theorem exchange_refines_timed (P : C08b.Params) (hP : P.F = Cluster.F) (H : List Op) (c : Cluster) (a : C08b.Cl)
    (τ : Nat) (hs : ∀ x, (a x).s = absSet c x) (j i : Nat) (rf : Bool) (hl : j < c.nodes.length)
    (hjn : j < P.n) (hin : i < P.n) (hf : (getNode c j).failNext = false) (hji : j ≠ i)
    (hagree : Agree (getNode c i).ks) :
    C08b.ValidEv P H a τ (.exchange j i (repairOps c j i rf)) ∧
    ∀ x, (C08b.step P.F a (.exchange j i (repairOps c j i rf)) x).s = absSet (repair c j i rf).1 x := by
  constructor
  · refine ⟨hjn, hin, ?_⟩
    intro so hso
    rw [hs j, hs i]
    exact repairOps_sub_diffOps c j i rf hagree so hso
  · intro x
    rw [repair_sets c j i rf hl hf hji x, hP]
    simp only [C08b.step, C08b.upd, apply_ite C08b.Replica.s, hs]

/-- **purge_refines_timed**: the purge of the executable model is the `purge` event. -/
theorem purge_refines_timed (P : C08b.Params) (H : List Op) (c : Cluster) (a : C08b.Cl) (τ : Nat)
    (hs : ∀ x, (a x).s = absSet c x) (j : Nat) (hl : j < c.nodes.length) (hjn : j < P.n) :
    C08b.ValidEv P H a τ (.purge j) ∧
    ∀ x, (C08b.step P.F a (.purge j) x).s = absSet (Cluster.purge c j) x := by
  refine ⟨hjn, fun x => ?_⟩
  rw [purge_sets c j hl x]
  simp only [C08b.step, C08b.upd, apply_ite C08b.Replica.s, hs]

/-- The `apply` events of the timed cluster for the operations a request lets through (all at time `τ`). -/
def timedApplyEvents (τ i src : Nat) (ops : List Op) : List (Nat × C08b.Ev) := ops.map (fun o => (τ, .apply i src o))

theorem run_timedApply (F : Nat) (a : C08b.Cl) (τ i src : Nat) (ops : List Op) (x : Nat) :
    (C08b.run F a (timedApplyEvents τ i src ops) x).s =
      if x = i then applyAll F (a i).s (ops.map (fun o => ⟨src, o⟩)) else (a x).s := by
  rw [C08b.run, timedApplyEvents, List.foldl_map, applyAll, List.foldl_map]
  refine foldl_at (fun c x => (c x).s) (fun s o => (applyOp F s ⟨src, o⟩).1) (fun c o x => ?_) ops a x
  simp only [C08b.step, C08b.upd]
  split <;> rfl

/-- **request_sets_timed**: a request handled at node `i` of the executable model has the effect of the
`apply` events of the operations its handler lets through, in the order it applies them. -/
theorem request_sets_timed (c : Cluster) (a : C08b.Cl) (hs : ∀ x, (a x).s = absSet c x) (τ i src : Nat)
    (iss : Issued) (hl : i < c.nodes.length) (hf : (getNode c i).failNext = false) (x : Nat) :
    (C08b.run Cluster.F a (timedApplyEvents τ i src (requestOps (absSet c i) iss)) x).s = absSet (applyAt c i src iss).1 x := by
  rw [run_timedApply, applyAt_sets c i src iss hl hf x, hs i, hs x]

end Datacake.C08c
