/-
C12 — RPC delivers exactly the bytes sent; damaged or short frames are rejected.

Model: `Model/Rpc.lean` (`crc32`, `mkFrame` = `to_view_bytes`; `DataView::using` is `checkFrameA`:
`checkFrame`, the checksum and the length guard, followed by the alignment guard of fix D35 - what
`checkFrame` refuses it refuses: `checkA_none_of_check_none`).
The `rkyv` archive itself is a codec pair `enc`/`dec` with `dec (enc v) = some v` (trusted base);
everything about the frame is proved here for every body of every length and every bit position.
-/
import Datacake.Lemmas.Crc
import Datacake.Lemmas.LittleEndian

namespace Datacake.C12
open Datacake.Rpc

def Bytes (l : List Nat) : Prop := ∀ b ∈ l, b < 256

theorem crc32_lt (b : List Nat) : crc32 b < 4294967296 := by
  unfold crc32; exact (BitVec.isLt _)

theorem le32_eq (v : Nat) : le32 v = LittleEndian.toBytes 4 v := by
  simp only [le32, LittleEndian.toBytes, Nat.div_div_eq_div_mul]

theorem fromLe32_eq : ∀ bs : List Nat, bs.length = 4 → fromLe32 bs = LittleEndian.ofBytes bs
  | [a, b, c, d], _ => by simp only [fromLe32, LittleEndian.ofBytes, List.foldr]; grind

theorem length_le32 {v : Nat} : (le32 v).length = 4 := rfl

theorem fromLe32_le32 {c : Nat} (h : c < 4294967296) : fromLe32 (le32 c) = c := by
  rw [le32_eq, fromLe32_eq _ (LittleEndian.length_toBytes 4 c), LittleEndian.ofBytes_toBytes 4 c h]

theorem check_append (fixed : Nat) (b t : List Nat) (ht : t.length = 4) :
    checkFrame fixed (b ++ t) =
      if fromLe32 t ≠ crc32 b then none else if b.length < fixed then none else some b := by
  unfold checkFrame
  have hl : (b ++ t).length - 4 = b.length := by simp [ht]
  rw [if_neg (by simp [ht])]
  simp only [hl, List.take_left', List.drop_left']

/-- **frame_roundtrip**: what `to_view_bytes` produced is accepted and yields exactly the body. -/
theorem frame_roundtrip (fixed : Nat) (b : List Nat) (h : fixed ≤ b.length) :
    checkFrame fixed (mkFrame b) = some b := by
  unfold mkFrame
  rw [check_append fixed b _ length_le32, fromLe32_le32 (crc32_lt b), if_neg (fun h => h rfl),
    if_neg (Nat.not_lt.2 h)]

/-- With the codec assumption: the receiver decodes exactly the value that was sent (request and
reply direction alike; a handler error travels as a `Status` value through the same frame). -/
theorem value_roundtrip {α : Type} (enc : α → List Nat) (dec : List Nat → Option α)
    (hcodec : ∀ v, dec (enc v) = some v) (fixed : Nat) (v : α) (hfix : fixed ≤ (enc v).length) :
    (checkFrame fixed (mkFrame (enc v))).bind dec = some v := by
  rw [frame_roundtrip fixed _ hfix]; exact hcodec v

/-- **short_frame_rejected**: a frame shorter than the fixed-size part plus the trailer is refused —
whatever its bytes are, in particular every truncation of a valid frame below that size. -/
theorem short_frame_rejected (fixed : Nat) (frame : List Nat) (h : frame.length < fixed + 4) :
    checkFrame fixed frame = none := by
  unfold checkFrame
  split
  · rfl
  · simp only [List.length_take]
    split
    · rfl
    · rw [if_pos (by omega)]

/-- `try_handle` returns the `Status::invalid()` before `on_message`; that no handler runs is
`C12b.exchange_refused`. -/
theorem no_handler_on_invalid {α : Type} (dec : List Nat → Option α) (fixed : Nat)
    (frame : List Nat) (h : checkFrame fixed frame = none) : (checkFrame fixed frame).bind dec = none := by
  rw [h]; rfl

/-- Every theorem of this file that ends in `checkFrame .. = none` holds for `checkFrameA` too. -/
theorem checkA_none_of_check_none (fixed align : Nat) (frame : List Nat) (h : checkFrame fixed frame = none) :
    checkFrameA fixed align frame = none := by
  unfold checkFrameA; rw [h]

/-- What the guard adds: a frame with a matching checksum whose root would sit at a position that is
not aligned for it is refused (the pinned check accepted it and formed the reference). -/
theorem misplaced_root_rejected (fixed align : Nat) (b : List Nat) (hpos : (b.length - fixed) % align ≠ 0) :
    checkFrameA fixed align (mkFrame b) = none := by
  by_cases hfix : fixed ≤ b.length
  · rw [checkFrameA, frame_roundtrip fixed b hfix]; exact if_neg hpos
  · exact checkA_none_of_check_none fixed align _
      (short_frame_rejected fixed _ (by rw [mkFrame, List.length_append, length_le32]; omega))

/-- **frame_roundtripA**: `frame_roundtrip` with the guard (`hpos`: the serializer aligns the root). -/
theorem frame_roundtripA (fixed align : Nat) (b : List Nat) (h : fixed ≤ b.length)
    (hpos : (b.length - fixed) % align = 0) : checkFrameA fixed align (mkFrame b) = some b := by
  rw [checkFrameA, frame_roundtrip fixed b h]; exact if_pos hpos

/-- The guard never lets through what the plain check refused, and yields the same body. -/
theorem checkA_some (fixed align : Nat) (frame body : List Nat) (h : checkFrameA fixed align frame = some body) :
    checkFrame fixed frame = some body ∧ (body.length - fixed) % align = 0 := by
  unfold checkFrameA at h
  split at h
  · cases h
  · rename_i b hb
    split at h <;> cases h
    exact ⟨hb, ‹_›⟩

/-- The witness of D35: an 8-byte root with one stray byte in front of it, checksum recomputed. -/
theorem legacy_misplaced_root :
    (checkFrame 8 (mkFrame [9, 1, 2, 3, 4, 5, 6, 7, 8])).isSome = true ∧
    checkFrameA 8 8 (mkFrame [9, 1, 2, 3, 4, 5, 6, 7, 8]) = none := by
  refine ⟨?_, misplaced_root_rejected 8 8 _ (by decide)⟩
  rw [frame_roundtrip 8 _ (by decide)]; rfl

theorem xor_bit_ne (x i : Nat) : x ^^^ (1 <<< i) ≠ x := by
  intro h
  have := congrArg (fun v => v.testBit i) h
  simp [Nat.testBit_xor, Nat.one_shiftLeft] at this

theorem flipBit_at (pre post : List Nat) (x i : Nat) :
    flipBit (pre ++ x :: post) pre.length i = pre ++ (x ^^^ (1 <<< i)) :: post := by
  rw [flipBit, List.drop_left, List.take_left]

theorem split_at (buf : List Nat) (j : Nat) (hj : j < buf.length) :
    ∃ pre x post, buf = pre ++ x :: post ∧ pre.length = j :=
  ⟨buf.take j, buf[j], buf.drop (j + 1), by simp, by simp; omega⟩

theorem map_differ_at {α β : Type} (l : List α) (f g : α → β) (a : α) (ha : a ∈ l) (hn : l.Nodup)
    (h : ∀ b, b ≠ a → g b = f b) :
    ∃ pre post, l.map f = pre ++ f a :: post ∧ l.map g = pre ++ g a :: post := by
  obtain ⟨s, t, rfl⟩ := List.append_of_mem ha
  obtain ⟨_, hat, hs⟩ := List.nodup_append.1 hn
  refine ⟨s.map f, t.map f, by simp, ?_⟩
  rw [List.map_append, List.map_cons,
    List.map_congr_left fun b hb => h b (hs b hb a List.mem_cons_self),
    List.map_congr_left fun b hb => h b fun e => (List.nodup_cons.1 hat).1 (e ▸ hb)]

/-- One flipped bit of a byte is one flipped bit of the bit string the register runs over. -/
theorem crc32_flip_ne (pre post : List Nat) (x i : Nat) (hi : i < 8) :
    crc32 (pre ++ (x ^^^ (1 <<< i)) :: post) ≠ crc32 (pre ++ x :: post) := by
  have hb : ∀ j, (x ^^^ (1 <<< i)).testBit j = (x.testBit j ^^ decide (i = j)) := fun j => by
    rw [Nat.testBit_xor, Nat.one_shiftLeft, Nat.testBit_two_pow]
  obtain ⟨p, q, h1, h2⟩ := map_differ_at (List.range 8) x.testBit (x ^^^ (1 <<< i)).testBit i
    (List.mem_range.2 hi) List.nodup_range fun j hj => by simp [hb, Ne.symm hj]
  rw [hb i, decide_eq_true rfl, Bool.xor_true] at h2
  have e : ∀ y c, byteBits y = p ++ c :: q →
      bitsOf (pre ++ y :: post) = (bitsOf pre ++ p) ++ c :: (q ++ bitsOf post) := fun y c hy => by simp [bitsOf, hy]
  intro h
  rw [crc32, crc32, e x _ h1, e _ _ h2] at h
  exact crcRaw_flip_ne _ _ _ _ ((BitVec.xor_left_inj _).1 (BitVec.eq_of_toNat_eq h))

/-- **single_bit_flip_rejected**: for every body (of any length), every byte position of the frame —
body or checksum trailer — and every bit of that byte, the corrupted frame is refused. -/
theorem single_bit_flip_rejected (fixed : Nat) (b : List Nat) (j i : Nat)
    (hj : j < (mkFrame b).length) (hi : i < 8) :
    checkFrame fixed (flipBit (mkFrame b) j i) = none := by
  unfold mkFrame at hj ⊢
  by_cases hjb : j < b.length
  · -- the flipped bit is in the body: the trailer holds the checksum of another body
    obtain ⟨pre, x, post, rfl, rfl⟩ := split_at b j hjb
    rw [List.append_assoc, List.cons_append, flipBit_at, ← List.cons_append, ← List.append_assoc,
      check_append _ _ _ length_le32, fromLe32_le32 (crc32_lt _),
      if_pos (Ne.symm (crc32_flip_ne pre post x i hi))]
  · -- the flipped bit is in the trailer: it stands for another number than the checksum
    obtain ⟨pre, x, post, ht, hp⟩ := split_at (le32 (crc32 b)) (j - b.length) (by simp at hj ⊢; omega)
    have hjl : j = (b ++ pre).length := by rw [List.length_append, hp]; omega
    have hl : ∀ y, (pre ++ y :: post).length = 4 := fun y => by rw [← length_le32 (v := crc32 b), ht]; simp
    rw [ht, ← List.append_assoc, hjl, flipBit_at, List.append_assoc, check_append _ _ _ (hl _), if_pos]
    rw [← fromLe32_le32 (crc32_lt b), ht, fromLe32_eq _ (hl _), fromLe32_eq _ (hl _)]
    exact LittleEndian.ofBytes_update_ne pre post x _ (xor_bit_ne x i)

/-- Defect D3 of the pinned tree: the four-byte frame `[0,0,0,0]` carries the correct CRC of the
empty body (`crc32 [] = 0`), so the pinned check accepts it for *every* message type and hands an
empty slice to `archived_root` (subtraction overflow / out-of-bounds read).  The current check
refuses it for every type with a non-empty root. -/
theorem legacy_zero_frame (fixed : Nat) (h : 0 < fixed) :
    checkFrameLegacy fixed [0, 0, 0, 0] = some [] ∧ checkFrame fixed [0, 0, 0, 0] = none :=
  ⟨rfl, short_frame_rejected fixed _ (Nat.lt_add_of_pos_left h)⟩

-- The standard check value of "123456789" (`decide` runs the register over 72 bits, hence the recursion depth).
set_option maxRecDepth 100000 in
example : crc32 [49, 50, 51, 52, 53, 54, 55, 56, 57] = 0xCBF43926 := by decide

end Datacake.C12
