/-
C19, the envelope of a `GetState` reply at the level of bytes (`Model/Envelope.lean`): what the
asking node reads is what the serving node put in - timestamp, change stamp and the nested state
bytes, for states of any size below 2 GiB, however the reply is cut on the wire; and an envelope that
declares its nested bytes outside the message, behind the root or at a misplaced root is NOT used (the
reading `check_archived_root` allows since fix D24).  Equal nested bytes decode to equal maps (the codec
assumption that remains), and equal maps are observably the same set for ever
(`Props/C19.lean: obs_equiv_forever`).
-/
import Datacake.Model.Envelope
import Datacake.Props.C12b
import Datacake.Props.C19

namespace Datacake.C19b
open Datacake.Rpc Datacake.Exchange Datacake.Envelope Datacake.C12 Datacake.C12b Datacake.OrSwot

theorem fromLe64_le64 {v : Nat} (h : v < 18446744073709551616) : fromLe64 (le64 v) = v := by
  rw [fromLe64, le64, List.take_left' length_le32, List.drop_left' length_le32,
    fromLe32_le32 (Nat.mod_lt _ (by decide)), fromLe32_le32 (Nat.div_lt_of_lt_mul h)]
  exact Nat.mod_add_div v 4294967296

theorem archiveEnv_shape (ts lu : Nat) (set : List Nat) :
    ENV_FIXED ≤ (archiveEnv ts lu set).length ∧ ((archiveEnv ts lu set).length - ENV_FIXED) % ENV_ALIGN = 0 := by
  have : (archiveEnv ts lu set).length = set.length + pad8 set.length + ENV_FIXED := by
    rw [archiveEnv, List.length_append, length_append_zeros]; rfl
  rw [this, Nat.add_sub_cancel]
  exact ⟨Nat.le_add_left .., pad_aligned 8 set.length (by decide)⟩

theorem readEnv_fields {pre f1 f2 f3 f4 : List Nat} (h1 : f1.length = 8) (h2 : f2.length = 8)
    (h3 : f3.length = 4) (h4 : f4.length = 4) :
    readEnv (pre ++ (f1 ++ (f2 ++ (f3 ++ f4)))) =
      if pre.length % 8 ≠ 0 then none
      else if fromLe32 f3 < 2147483648 then none
      else
        let back := 4294967296 - fromLe32 f3
        if back ≤ pre.length + 16 ∧ (pre.length + 16 - back) + fromLe32 f4 ≤ pre.length then
          some (fromLe64 f1, fromLe64 f2,
            ((pre ++ (f1 ++ (f2 ++ (f3 ++ f4)))).drop (pre.length + 16 - back)).take (fromLe32 f4))
        else none := by
  have hlen : (pre ++ (f1 ++ (f2 ++ (f3 ++ f4)))).length = pre.length + ENV_FIXED := by
    simp only [List.length_append, h1, h2, h3, h4]; rfl
  have d16 : (f1 ++ (f2 ++ (f3 ++ f4))).drop 16 = f3 ++ f4 := by
    rw [← List.append_assoc, List.drop_left' (by rw [List.length_append, h1, h2])]
  have d20 : (f1 ++ (f2 ++ (f3 ++ f4))).drop 20 = f4 := by
    rw [← List.append_assoc, ← List.append_assoc, List.drop_left' (by simp only [List.length_append, h1, h2, h3])]
  unfold readEnv
  rw [hlen, if_neg (Nat.not_lt.2 (Nat.le_add_left ..)), Nat.add_sub_cancel]
  simp only [ENV_ALIGN, List.drop_length_add_append, List.drop_left, d16, d20, List.drop_left' h1,
    List.take_left' h1, List.take_left' h2, List.take_left' h3, List.take_of_length_le (Nat.le_of_eq h4)]

/-- **readEnv_archiveEnv**: the bytes rkyv writes for the envelope read back as the same two stamps and
the same nested bytes.  `+ 32`: the relative pointer goes back over the nested bytes,
their padding (at most 7) and the 16 bytes of the stamps, and has to fit an `i32` (2147483648 is 2^31). -/
theorem readEnv_archiveEnv (ts lu : Nat) (set : List Nat) (hts : ts < 18446744073709551616)
    (hlu : lu < 18446744073709551616) (hl : set.length + 32 ≤ 2147483648) :
    readEnv (archiveEnv ts lu set) = some (ts, lu, set) := by
  have hp : pad8 set.length < 8 := Nat.mod_lt _ (by decide)
  have hlen : set.length < 4294967296 := by omega
  rw [archiveEnv]
  generalize hK : set.length + pad8 set.length + 16 = K
  obtain ⟨k1, k2, k3, _⟩ := relptr K (hK ▸ Nat.succ_pos _) (by omega)
  rw [readEnv_fields rfl rfl rfl rfl, fromLe64_le64 hts, fromLe64_le64 hlu, fromLe32_le32 k1,
    fromLe32_le32 hlen, length_append_zeros, if_neg (fun h => h (pad_aligned 8 set.length (by decide))), if_neg (Nat.not_lt.2 k2), k3, hK]
  simp only
  rw [if_pos ⟨Nat.le_refl K, by simp⟩, Nat.sub_self, List.drop_zero, List.append_assoc, List.take_left]

/-- Two different replies never share an envelope: stamps and nested bytes can be read off the bytes. -/
theorem archiveEnv_injective (ts lu ts' lu' : Nat) (set set' : List Nat)
    (h1 : ts < 18446744073709551616) (h2 : lu < 18446744073709551616) (h3 : set.length + 32 ≤ 2147483648)
    (h1' : ts' < 18446744073709551616) (h2' : lu' < 18446744073709551616) (h3' : set'.length + 32 ≤ 2147483648)
    (h : archiveEnv ts lu set = archiveEnv ts' lu' set') : ts = ts' ∧ lu = lu' ∧ set = set' :=
  (Prod.mk.inj (Option.some.inj ((readEnv_archiveEnv ts lu set h1 h2 h3).symm.trans
    (h ▸ readEnv_archiveEnv ts' lu' set' h1' h2' h3')))).imp_right Prod.mk.inj

/-- **getState_exact**: the whole way - framed by the serving node, cut in any chunks, checked and
read by the asking node - hands over exactly the stamps and the nested state bytes that were sent. -/
theorem getState_exact (ts lu : Nat) (set : List Nat) (respCuts : List Nat) (hts : ts < 18446744073709551616)
    (hlu : lu < 18446744073709551616) (hl : set.length + 32 ≤ 2147483648) :
    getState ts lu set respCuts = some (ts, lu, set) := by
  unfold getState client envFrame
  simp only [toAligned_bytes, cut_flatten, if_true]
  have hs := archiveEnv_shape ts lu set
  rw [frame_roundtripA ENV_FIXED ENV_ALIGN _ hs.1 hs.2]
  exact readEnv_archiveEnv ts lu set hts hlu hl

/-- The length of the nested bytes as a body declares it. -/
def declaredLen (body : List Nat) : Nat := fromLe32 ((body.drop (body.length - ENV_FIXED + 20)).take 4)
/-- The relative pointer to them as it stands in a body. -/
def declaredOff (body : List Nat) : Nat := fromLe32 ((body.drop (body.length - ENV_FIXED + 16)).take 4)

theorem readEnv_some (body : List Nat) (r : Nat × Nat × List Nat) (h : readEnv body = some r) :
    (body.length - ENV_FIXED) % ENV_ALIGN = 0 ∧ 2147483648 ≤ declaredOff body ∧
      declaredLen body ≤ body.length - ENV_FIXED := by
  simp only [readEnv, Option.ite_none_left_eq_some, Option.ite_none_right_eq_some] at h
  obtain ⟨_, h2, h3, h4, _⟩ := h
  exact ⟨Decidable.not_not.1 h2, Nat.not_lt.1 h3, Nat.le_trans (Nat.le_add_left ..) h4.2⟩

/-- **bogus_len_refused** (D24): an envelope that declares more nested bytes than lie in front of its
root is not used - whatever else it says, matching checksum or not. -/
theorem bogus_len_refused (body : List Nat) (h : body.length - ENV_FIXED < declaredLen body) : readEnv body = none :=
  Option.eq_none_iff_forall_ne_some.2 fun r hr => Nat.not_le.2 h (readEnv_some body r hr).2.2

/-- **forward_ptr_refused**: a pointer that does not point backwards (offset ≥ 0) is not followed. -/
theorem forward_ptr_refused (body : List Nat) (h : declaredOff body < 2147483648) : readEnv body = none :=
  Option.eq_none_iff_forall_ne_some.2 fun r hr => Nat.not_le.2 h (readEnv_some body r hr).2.1

/-- **misplaced_envelope_refused** (D35): a root that is not at a multiple of 8 is not read. -/
theorem misplaced_envelope_refused (body : List Nat) (h : (body.length - ENV_FIXED) % ENV_ALIGN ≠ 0) :
    readEnv body = none :=
  Option.eq_none_iff_forall_ne_some.2 fun r hr => h (readEnv_some body r hr).1

/-- **received_state_is_the_senders**: with the one assumption that is left - the archive of a set
decodes to a set observably equal to the one that was encoded (`hcodec`; compared on every run, not
proved) - the state the asking node ends up with after the whole way (serialise, envelope, frame, any
chunking, frame check, checked envelope reading, decode) is observably the sender's, and carries the
sender's change stamp (`C19.ObsEq` is what `Props/C19.lean` shows to be preserved by every operation).  The
envelope's `timestamp` goes to the node clock (`register_ts`) and is no part of the result. -/
theorem received_state_is_the_senders (enc : OrSwot → List Nat) (dec : List Nat → Option OrSwot)
    (hcodec : ∀ s, ∃ s', dec (enc s) = some s' ∧ C19.ObsEq s s')
    (s : OrSwot) (ts lu : Nat) (respCuts : List Nat)
    (hts : ts < 18446744073709551616) (hlu : lu < 18446744073709551616) (hl : (enc s).length + 32 ≤ 2147483648) :
    ∃ s', ((getState ts lu (enc s) respCuts).bind (fun r => (dec r.2.2).map (fun x => (r.2.1, x)))) = some (lu, s') ∧
      C19.ObsEq s s' := by
  obtain ⟨s', hd, ho⟩ := hcodec s
  refine ⟨s', ?_, ho⟩
  rw [getState_exact ts lu (enc s) respCuts hts hlu hl]
  simp [hd]

example : getState 5 9 [1, 2, 3, 4, 5, 6, 7, 8, 9] [3] = some (5, 9, [1, 2, 3, 4, 5, 6, 7, 8, 9]) :=
  getState_exact 5 9 _ [3] (by decide) (by decide) (by decide)

/-- the honest envelope of three nested bytes with its length field overwritten by 2^30: refused -/
example : readEnv ([1, 2, 3, 0, 0, 0, 0, 0] ++ le64 5 ++ le64 9 ++ le32 (4294967296 - 24) ++ le32 1073741824) = none := by
  decide
example : readEnv ([1, 2, 3, 0, 0, 0, 0, 0] ++ le64 5 ++ le64 9 ++ le32 (4294967296 - 24) ++ le32 3) = some (5, 9, [1, 2, 3]) := by
  decide

end Datacake.C19b
