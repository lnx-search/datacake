/-
C18 — A keyspace has one state, even when first used by many tasks at once.

Model: `Model/Group.lean` — the small-step machine of `get_or_create_keyspace`; a schedule is any
list of task ids.

Proved in `Props/C18b.lean` for several keyspace names at once; this file is the corollary for one name (`ofGN`).
-/
import Datacake.Props.C18b

namespace Datacake.C18
open Datacake.Group

/-- The one-name machine is `Group.stepN` with every task on keyspace 0, seen through the map's entry
for that name. -/
def ofGN (g : GN) : G := ⟨g.map 0, g.next, g.pc, g.created, g.held, g.sets⟩

theorem step_ofGN (g : GN) (t : Nat) : step false (ofGN g) t = ofGN (stepN (fun _ => 0) g t) := by
  dsimp only [step, stepN, ofGN]
  split
  · cases hm : g.map 0 <;> simp [hm]
  · rfl
  · cases hm : g.map 0 <;> simp [hm, C18b.upd_self]
  · cases g.held t <;> rfl
  · rfl

theorem run_eq_ofGN (schedule : List Nat) : run false schedule = ofGN (runN (fun _ => 0) schedule) :=
  List.foldl_hom (init := {}) ofGN step_ofGN

/-- **one_state**: for every number of tasks and every schedule, (1) every task that obtained a
mailbox obtained the one registered in the map — there is one instance —, and (2) every mutation
whose send completed is in the set of that instance: no accepted operation is missing from the set
peers later synchronise against. -/
theorem one_state (schedule : List Nat) :
    (∀ t a, (run false schedule).held t = some a → (run false schedule).map = some a) ∧
    (∀ t, (run false schedule).pc t = 4 → t ∈ visible (run false schedule)) := by
  rw [run_eq_ofGN]
  have h := C18b.one_state_each (fun _ => 0) schedule
  exact ⟨h.1, h.2.2⟩

/-- Two tasks never hold different instances. -/
theorem same_instance (schedule : List Nat) (t t' a a' : Nat)
    (h : (run false schedule).held t = some a) (h' : (run false schedule).held t' = some a') : a = a' := by
  rw [run_eq_ofGN] at h h'
  exact (C18b.one_state_each (fun _ => 0) schedule).2.1 t t' a a' rfl h h'

/-- Defect D7 of the pinned tree: two tasks both look up before either inserts; the second insert
overwrites the first; task 0's acknowledged mutation is missing from the visible set. -/
theorem legacy_race :
    let g := run true [0, 1, 0, 1, 0, 1, 0, 1]
    g.pc 0 = 4 ∧ g.pc 1 = 4 ∧ visible g = [1] ∧ g.held 0 = some 0 ∧ g.held 1 = some 1 ∧
    visible (run false [0, 1, 0, 1, 0, 1, 0, 1]) = [1, 0] := by decide

end Datacake.C18
