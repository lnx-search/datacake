/-
C01, the poller's skip rule — why "the keyspace has not changed since I last synchronised" is safe.

`replication/poller.rs`: node j remembers, per peer and keyspace, the change stamp `L` that came
with the last state it synchronised against (`KeyspaceTracker`), and skips the keyspace while the
peer's polled change stamp equals `L`.  The peer's `GetState` handler reads the change stamp FIRST
(`LastUpdated`) and the set SECOND (`Serialize`), as two separate actor messages; mutations may be
processed in between.

Model.  The peer is a log of mutations; its change stamp, strictly increasing with every state change
(the node clock: C11), is the number of mutations so far.  "j knows o" abstracts C01 `Knows`, and
`applyOk` the fact `exchange_transfers`: after applying the difference against a snapshot, j knows
everything the snapshot contained.
-/
namespace Datacake.C01b

inductive Phase where
  | idle
  | gotVer (l : Nat)                    -- the handler has read the change stamp
  | gotSet (s : List Nat)               -- (legacy order only) the handler has read the set
  | gotState (l : Nat) (s : List Nat)   -- the reply (stamp, set) is on its way / being applied
  deriving DecidableEq

structure St where
  log : List Nat := []          -- the peer's applied operations, newest first; change stamp = log.length
  tracker : Option Nat := none  -- j's KeyspaceTracker entry for this peer and keyspace
  known : List Nat := []        -- operations j knows
  phase : Phase := .idle

inductive Step where
  | mutate (o : Nat)      -- the peer applies an operation (its change stamp grows)
  | readVer               -- GetState handler: LastUpdated
  | readSet               -- GetState handler: Serialize
  | applyOk               -- j applied the whole difference: tracker := the stamp of the reply
  | applyFail (learnt : List Nat)   -- a half failed: j learnt part of it, the tracker is untouched
  | learn (o : Nat)       -- j learns an operation some other way (direct replication, another peer)
  deriving DecidableEq

/-- The current handler order: stamp first, set second. -/
def step (s : St) : Step → St
  | .mutate o => { s with log := o :: s.log }
  | .readVer => match s.phase with
    | .idle => { s with phase := .gotVer s.log.length }
    | _ => s
  | .readSet => match s.phase with
    | .gotVer l => { s with phase := .gotState l s.log }
    | _ => s
  | .applyOk => match s.phase with
    | .gotState l set => { s with known := set ++ s.known, tracker := some l, phase := .idle }
    | _ => s
  | .applyFail learnt => match s.phase with
    | .gotState _ set => { s with known := learnt.filter (· ∈ set) ++ s.known, phase := .idle }
    | _ => s
  | .learn o => { s with known := o :: s.known }

/-- The other order of the two reads, set first and stamp second — the order the seeded change C01-m2
gives the handler (the repository never had it). -/
def stepLegacy (s : St) : Step → St
  | .readSet => match s.phase with
    | .idle => { s with phase := .gotSet s.log }
    | _ => s
  | .readVer => match s.phase with
    | .gotSet set => { s with phase := .gotState s.log.length set }
    | _ => s
  | st => step s st

def run (steps : List Step) : St := steps.foldl step {}
def runLegacy (steps : List Step) : St := steps.foldl stepLegacy {}

/-- `set` contains everything the peer had applied when its change stamp was `l`: the oldest `l`
operations of its log. -/
def Covers (log : List Nat) (l : Nat) (set : List Nat) : Prop :=
  ∃ old, old <:+ log ∧ old.length = l ∧ ∀ o ∈ old, o ∈ set

theorem Covers.cons {log set : List Nat} {l : Nat} (h : Covers log l set) (o : Nat) : Covers (o :: log) l set :=
  let ⟨old, hsuf, hlen, hmem⟩ := h
  ⟨old, hsuf.trans (List.suffix_cons o log), hlen, hmem⟩

theorem Covers.mono {log set set' : List Nat} {l : Nat} (h : Covers log l set) (hsub : ∀ o ∈ set, o ∈ set') :
    Covers log l set' :=
  let ⟨old, hsuf, hlen, hmem⟩ := h
  ⟨old, hsuf, hlen, fun o ho => hsub o (hmem o ho)⟩

theorem Covers.all {log set : List Nat} (h : Covers log log.length set) : ∀ o ∈ log, o ∈ set := by
  obtain ⟨old, hsuf, hlen, hmem⟩ := h
  cases hsuf.eq_of_length hlen
  exact hmem

/-- What a phase promises: a stamp that has been read is a past stamp of the log, and a reply carries a
set that covers its stamp. -/
def PhaseOk (log : List Nat) : Phase → Prop
  | .idle => True
  | .gotVer l => Covers log l log
  | .gotSet _ => False
  | .gotState l set => Covers log l set

theorem PhaseOk.cons {log : List Nat} {p : Phase} (h : PhaseOk log p) (o : Nat) : PhaseOk (o :: log) p := by
  cases p with
  | idle => trivial
  | gotVer l => exact (Covers.cons h o).mono fun _ => List.mem_cons_of_mem o
  | gotSet set => exact h
  | gotState l set => exact Covers.cons h o

/-- A recorded stamp is covered by what j knows. -/
def Inv (s : St) : Prop := (∀ l, s.tracker = some l → Covers s.log l s.known) ∧ PhaseOk s.log s.phase

theorem inv_step (s : St) (h : Inv s) (st : Step) : Inv (step s st) := by
  obtain ⟨log, tracker, known, phase⟩ := s
  obtain ⟨htr, hph⟩ := h
  cases st with
  | mutate o => exact ⟨fun l hl => (htr l hl).cons o, hph.cons o⟩
  | learn o => exact ⟨fun l hl => (htr l hl).mono fun _ => List.mem_cons_of_mem o, hph⟩
  | readVer =>
    cases phase with
    | idle => exact ⟨htr, log, List.suffix_refl log, rfl, fun _ h => h⟩
    | _ => exact ⟨htr, hph⟩
  | readSet =>
    -- the reply's set is the log as it is now; that it covers the stamp read earlier is what
    -- `gotVer l` promised
    cases phase <;> exact ⟨htr, hph⟩
  | applyOk =>
    cases phase with
    | gotState l set => exact ⟨fun l' hl => Option.some.inj hl ▸ hph.mono fun _ => List.mem_append_left known, trivial⟩
    | _ => exact ⟨htr, hph⟩
  | applyFail learnt =>
    cases phase with
    | gotState l set => exact ⟨fun l' hl => (htr l' hl).mono fun _ => List.mem_append_right _, trivial⟩
    | _ => exact ⟨htr, hph⟩

theorem inv_run (steps : List Step) : Inv (run steps) :=
  List.foldlRecOn steps step ⟨fun _ h => (nomatch h), trivial⟩ fun s h st _ => inv_step s h st

/-- **skip_safe**: after ANY interleaving of peer mutations, handler reads, successful and failed
synchronisations and other learning — whenever the poller would skip the keyspace, j knows every
operation the peer has applied. -/
theorem skip_safe (steps : List Step) (h : (run steps).tracker = some (run steps).log.length) :
    ∀ o ∈ (run steps).log, o ∈ (run steps).known :=
  ((inv_run steps).1 _ h).all

/-- **legacy_unsafe**: with the set read before the stamp, the handler can return a stamp newer
than its set; the tracker then equals the peer's stamp although j lacks operation 7 — the poller
skips the keyspace from then on. -/
theorem legacy_unsafe :
    let s := runLegacy [.readSet, .mutate 7, .readVer, .applyOk]
    s.tracker = some s.log.length ∧ 7 ∈ s.log ∧ 7 ∉ s.known := by decide

/-- A run with a mutation between the two reads ends with the tracker BEHIND the peer's stamp (the
next poll does not skip); a run without one ends equal, with everything known. -/
example :
    let s := run [.mutate 5, .readVer, .mutate 7, .readSet, .applyOk]
    s.tracker = some 1 ∧ s.log.length = 2 ∧ 7 ∈ s.known := by decide
example :
    let s := run [.mutate 5, .mutate 7, .readVer, .readSet, .applyOk]
    s.tracker = some s.log.length ∧ 5 ∈ s.known ∧ 7 ∈ s.known := by decide

end Datacake.C01b
