/-
C01 — The cluster converges: every node ends with the same last-writer-wins documents.

* This file: convergence of the *replicated sets* of any number of nodes, as a theorem about the CRDT
  and the repair protocol.  A node is its set with the list of operations it has applied; an event
  applies one operation of the history to a node through some source (a client write, a delivered /
  duplicated / reordered / batched replication message — any number of times, or never), or lets a
  node complete one anti-entropy exchange against the *current* state of a peer, the items of the
  difference applied in any order.  Here an exchange is atomic with respect to the peer.
* `Props/C01c.lean`: the same when the peer may change between the state snapshot and the document
  fetch.  `Props/C01d.lean`–`C01f.lean`: requests and exchanges of the executable cluster model
  (`Model/Cluster.lean`) are such events.  `Props/C01b.lean`: the poller's skip rule.
  `Props/C01g.lean`: an exchange whose fetch is refused.
* That every node's *store* agrees with its set is C02 (`agree_reachable_exact`); that a document read
  from the store carries the bytes of its put is the storage contract (C17); the executable model is
  tied to the code by the correspondence run of this property, with the Lean `lww` as oracle.
-/
import Datacake.Props.C05b

namespace Datacake.C01
open Datacake.Lww Datacake.OrSwot Datacake.Ts Datacake.C05

/-- A node at the level of the replicated set: its state and what it has applied. -/
structure Replica where
  s : OrSwot
  A : List Op

/-- The cluster: node index ↦ replica (indices beyond the cluster size are simply unused). -/
abbrev Cl := Nat → Replica

inductive Ev where
  | apply (j src : Nat) (o : Op)                 -- node j applies `o` through source `src`
  | exchange (j i : Nat) (order : List SrcOp)    -- node j applies its difference against node i

def upd (c : Cl) (j : Nat) (r : Replica) : Cl := fun x => if x = j then r else c x

def step (F : Nat) (c : Cl) : Ev → Cl
  | .apply j src o => upd c j ⟨(applyOp F (c j).s ⟨src, o⟩).1, o :: (c j).A⟩
  | .exchange j _ order => upd c j ⟨applyAll F (c j).s order, (order.map (·.op)).reverse ++ (c j).A⟩

def run (F : Nat) (c : Cl) (evs : List Ev) : Cl := evs.foldl (step F) c

/-- What every event, here and in `Props/C01c.lean`, does to one node; the events differ in which
operations their admissibility lets that node apply. -/
def applyOps (F : Nat) (c : Cl) (j : Nat) (ops : List SrcOp) : Cl :=
  upd c j ⟨applyAll F (c j).s ops, (ops.map (·.op)).reverse ++ (c j).A⟩

theorem applyOps_self (F : Nat) (c : Cl) (j : Nat) (ops : List SrcOp) :
    applyOps F c j ops j = ⟨applyAll F (c j).s ops, (ops.map (·.op)).reverse ++ (c j).A⟩ := if_pos rfl

theorem applyOps_other (F : Nat) (c : Cl) (ops : List SrcOp) {x j : Nat} (hx : x ≠ j) :
    applyOps F c j ops x = c x := if_neg hx

/-- An event is admissible in a state: applied operations belong to the history; an exchange
applies exactly the items of the difference it computed against the peer's current state. -/
def Valid (H : List Op) (c : Cl) : Ev → Prop
  | .apply _ _ o => o ∈ H
  | .exchange j i order =>
    (∀ o ∈ order, o.op ∈ diffOps (c j).s (c i).s) ∧ (∀ o ∈ diffOps (c j).s (c i).s, ∃ so ∈ order, so.op = o)

def ValidRun (F : Nat) (H : List Op) : Cl → List Ev → Prop
  | _, [] => True
  | c, e :: es => Valid H c e ∧ ValidRun F H (step F c e) es

/-- Every node represents what it applied, and has applied only operations of the history. -/
def Good (F : Nat) (H : List Op) (c : Cl) : Prop := ∀ j, Rep F (c j).s (c j).A ∧ ∀ o ∈ (c j).A, o ∈ H

/-- Node `r` knows operation `o`: its record of `o`'s key is at least `o`. -/
def Knows (r : Replica) (o : Op) : Prop := AtLeast (view r.s o.key) (rank o)

/-- The premises on the history.  `f4`: stamp times resolve to 4 ms (`dts_mod4`), and a cut-off `F`
before a stamp has to be a stamp time again. -/
structure Hist (F : Nat) (H : List Op) : Prop where
  f4 : F % 4 = 0
  good : GoodHist H
  window : WindowH F H
  distinct : KeyStampDistinct H

theorem good_applyOps {F : Nat} {H : List Op} (hh : Hist F H) {c : Cl} (hg : Good F H c) (j : Nat)
    {ops : List SrcOp} (hops : ∀ so ∈ ops, so.op ∈ H) : Good F H (applyOps F c j ops) := by
  intro x
  by_cases hx : x = j
  · subst hx
    rw [applyOps_self]
    exact applyAll_rep F hh.f4 H hh.good hh.window ops hops _ _ (hg x).1 (hg x).2
  · rw [applyOps_other F c ops hx]; exact hg x

theorem mem_applyOps (F : Nat) (c : Cl) (j : Nat) (ops : List SrcOp) {x : Nat} {o : Op}
    (ho : o ∈ (c x).A) : o ∈ (applyOps F c j ops x).A := by
  by_cases hx : x = j
  · subst hx; rw [applyOps_self]; exact List.mem_append_right _ ho
  · rw [applyOps_other F c ops hx]; exact ho

theorem knows_iff {F : Nat} {r : Replica} (rep : Rep F r.s r.A) (o : Op) :
    Knows r o ↔ ∃ o' ∈ r.A, o'.key = o.key ∧ rank o ≤ rank o' := by
  rw [Knows, rep.view, atLeast_lww]

theorem knows_of_mem {F : Nat} {r : Replica} (rep : Rep F r.s r.A) {o : Op} (ho : o ∈ r.A) : Knows r o :=
  (knows_iff rep o).2 ⟨o, ho, rfl, Nat.le_refl _⟩

theorem Knows.mono {F : Nat} {r r' : Replica} {o : Op} (hk : Knows r o) (rep : Rep F r.s r.A)
    (rep' : Rep F r'.s r'.A) (hsub : ∀ o ∈ r.A, o ∈ r'.A) : Knows r' o :=
  let ⟨o', ho', h⟩ := (knows_iff rep o).1 hk
  (knows_iff rep' o).2 ⟨o', hsub o' ho', h⟩

theorem lww_of_knows_greatest {F : Nat} {H : List Op} {c : Cl} (hg : Good F H c) (n k : Nat)
    (hk : ∀ x < n, ∀ o ∈ H, (∀ o' ∈ H, o'.key = o.key → rank o' ≤ rank o) → Knows (c x) o)
    (j : Nat) (hj : j < n) :
    view (c j).s k = lww H k ∧ ∀ j' < n, OrSwot.get (c j).s k = OrSwot.get (c j').s k := by
  have hview : ∀ x < n, view (c x).s k = lww H k := fun x hx => by
    rw [(hg x).1.view]
    refine lww_eq_of_subset (hg x).2 fun o ho hmax hkey => ?_
    rw [← hkey, ← (hg x).1.view]
    exact hk x hx o ho hmax
  exact ⟨hview j hj, fun j' hj' => OrSwot.get_of_view _ _ k ((hview j hj).trans (hview j' hj').symm)⟩

theorem good_step (F : Nat) (H : List Op) (hh : Hist F H) (c : Cl) (e : Ev) (hg : Good F H c)
    (hv : Valid H c e) : Good F H (step F c e) := by
  cases e with
  | apply j src o => exact good_applyOps hh hg j (ops := [⟨src, o⟩]) fun _ h => List.mem_singleton.1 h ▸ hv
  | exchange j i order =>
    -- the items of the difference are operations the peer has applied
    exact good_applyOps hh hg j fun so h =>
      (hg i).2 _ (op_of_rec (hg i).1 _ (mem_diffOps.1 (hv.1 so h)).1)

theorem good_run (F : Nat) (H : List Op) (hh : Hist F H) (evs : List Ev) (c : Cl) (hg : Good F H c)
    (hv : ValidRun F H c evs) : Good F H (run F c evs) := by
  induction evs generalizing c with
  | nil => exact hg
  | cons e es ih => exact ih _ (good_step F H hh c e hg hv.1) hv.2

theorem grows_step (F : Nat) (c : Cl) (e : Ev) (x : Nat) (o : Op) (ho : o ∈ (c x).A) :
    o ∈ (step F c e x).A := by
  cases e with
  | apply j src o' => exact mem_applyOps F c j [⟨src, o'⟩] ho
  | exchange j _ order => exact mem_applyOps F c j order ho

theorem grows_run (F : Nat) (evs : List Ev) (c : Cl) (x : Nat) (o : Op) (ho : o ∈ (c x).A) :
    o ∈ (run F c evs x).A :=
  List.foldlRecOn evs (step F) ho fun c h e _ => grows_step F c e x o h

theorem knows_run (F : Nat) (H : List Op) (hh : Hist F H) (evs : List Ev) (c : Cl) (hg : Good F H c)
    (hv : ValidRun F H c evs) (x : Nat) (o : Op) (hk : Knows (c x) o) : Knows (run F c evs x) o :=
  hk.mono (hg x).1 (good_run F H hh evs c hg hv x).1 (grows_run F evs c x)

/-- **exchange_transfers**: after node `j` completed an exchange against node `i`, `j` knows
everything `i` knew at that moment. -/
theorem exchange_transfers (F : Nat) (H : List Op) (hh : Hist F H) (c : Cl) (j i : Nat)
    (order : List SrcOp) (hg : Good F H c) (hv : Valid H c (.exchange j i order)) (o : Op)
    (hk : Knows (c i) o) : Knows (step F c (.exchange j i order) j) o := by
  show AtLeast (view (applyOps F c j order j).s o.key) (rank o)
  rw [applyOps_self, exchange_dominates F hh.f4 H hh.good hh.window hh.distinct _ _ _ _
    (hg j).1 (hg i).1 (hg j).2 (hg i).2 order hv.1 hv.2]
  exact hk.omax_right _

/-- In a history that contains the exchange `j ← i` somewhere, followed by anything: at the end
`j` knows what `i` knew before the history started. -/
theorem learns_through_run (F : Nat) (H : List Op) (hh : Hist F H) (evs : List Ev) (c : Cl)
    (hg : Good F H c) (hv : ValidRun F H c evs) (j i : Nat) (order : List SrcOp)
    (hmem : Ev.exchange j i order ∈ evs) (o : Op) (hk : Knows (c i) o) : Knows (run F c evs j) o := by
  induction evs generalizing c with
  | nil => cases hmem
  | cons e es ih =>
    have hg1 := good_step F H hh c e hg hv.1
    rcases List.mem_cons.1 hmem with rfl | hrest
    · -- this is the exchange: j learns it now and keeps it
      exact knows_run F H hh es _ hg1 hv.2 j o (exchange_transfers F H hh c j i order hg hv.1 o hk)
    · -- later: i keeps knowing it until then
      exact ih _ hg1 hv.2 hrest (hk.mono (hg i).1 (hg1 i).1 (grows_step F c e i))

/-- **convergence**: for a history as `Hist` asks, let `pre` be any admissible history after which every
operation of `H` is known at some node (its origin applied it when it was issued), and `post` any
admissible history — late deliveries, duplicates, further exchanges, in any order — in which every
ordered pair of distinct nodes completes at least one exchange.  Then every one of the `n` nodes
holds, for every key, exactly the last-writer-wins record of the whole history. -/
theorem convergence (F n : Nat) (H : List Op) (hh : Hist F H) (c0 : Cl) (hg0 : Good F H c0)
    (pre post : List Ev) (hvpre : ValidRun F H c0 pre) (hvpost : ValidRun F H (run F c0 pre) post)
    (origin : Op → Nat)
    (horigin : ∀ o ∈ H, origin o < n ∧ Knows (run F c0 pre (origin o)) o)
    (hpairs : ∀ j i, j < n → i < n → j ≠ i → ∃ order, Ev.exchange j i order ∈ post)
    (j : Nat) (hj : j < n) (k : Nat) :
    view (run F (run F c0 pre) post j).s k = lww H k ∧
    ∀ j' < n, OrSwot.get (run F (run F c0 pre) post j).s k = OrSwot.get (run F (run F c0 pre) post j').s k := by
  have hg1 := good_run F H hh pre c0 hg0 hvpre
  -- at the end every node knows every operation: its origin kept it, the others learnt it there
  refine lww_of_knows_greatest (good_run F H hh post _ hg1 hvpost) n k (fun x hx o ho _ => ?_) j hj
  obtain ⟨hon, hko⟩ := horigin o ho
  by_cases he : x = origin o
  · rw [he]; exact knows_run F H hh post _ hg1 hvpost _ o hko
  · obtain ⟨order, hmem⟩ := hpairs x (origin o) hx hon he
    exact learns_through_run F H hh post _ hg1 hvpost x (origin o) order hmem o hko

theorem good_empty (F nsrc : Nat) (H : List Op) : Good F H (fun _ => ⟨OrSwot.empty nsrc, []⟩) :=
  fun _ => ⟨rep_empty F nsrc, fun _ h => by cases h⟩

/-- Defect D1 at cluster level (pinned acceptance rule): the origin does put k1, put k2, delete
k1; a fresh node repairs from it with the removal half first: the delete raises the per-source
maximum above the put of k2, which is then refused — k2 never enters its set, and the next
difference lists it again. -/
theorem legacy_counterexample :
    let t1 := pack 5000000 0 1
    let t2 := pack 5000004 0 1
    let t3 := pack 5000008 0 1
    let o := (deleteWithSourceLegacy 3600000 (insertWithSourceLegacy 3600000
      (insertWithSourceLegacy 3600000 (OrSwot.empty 2) 0 1 t1).1 0 2 t2).1 0 1 t3).1
    let j0 := OrSwot.empty 2
    let j1 := (deleteWithSourceLegacy 3600000 j0 1 1 t3).1
    let j2 := (insertWithSourceLegacy 3600000 j1 1 2 t2).1
    diff j0 o = ([(2, t2)], [(1, t3)]) ∧ OrSwot.get j2 2 = none ∧ diff j2 o = ([(2, t2)], []) ∧
    -- the current rule converges
    OrSwot.get (insertWithSource 3600000 (deleteWithSource 3600000 j0 1 1 t3).1 1 2 t2).1 2 = some t2 := by
  decide

end Datacake.C01
