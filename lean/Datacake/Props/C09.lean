/-
C09 — Hybrid clock stamps are unique, strictly increasing and respect causality.

Model: `Datacake/Model/Timestamp.lean`.  All statements are for every clock value, every wall reading and
every remote stamp, under the guard `WallOk`: the wall reading is a multiple of 4 ms, which
`get_datacake_timestamp` guarantees whatever the system clock says (`wallOfUnix_wallOk`).
-/
import Datacake.Lemmas.Timestamp

namespace Datacake.C09
open Datacake.Ts

def IsU64 (t : Nat) : Prop := t < 18446744073709551616

/-- A multiple of 4 ms (the resolution of the packed form).  No bound: since the `fix:` commit for D16
`send`/`recv` refuse a logical time whose seconds do not fit 32 bits (the year 2159) instead of wrapping
(`WallOkLegacy`: the range within which the wrapping `send` of the pinned code is still right:
wall clock plus the allowed drift of 4100 s, and the carry, below 2^32 s). -/
def WallOk (wall : Nat) : Prop := wall % 4 = 0

def WallOkLegacy (wall : Nat) : Prop := wall % 4 = 0 ∧ wall / 1000 + 4102 < 4294967296

/-- A well-formed stamp: a `u64` whose `fractional` byte is one `duration_to_parts` produces.  The theorems
below do NOT need it of the clock. -/
def Valid (t : Nat) : Prop := IsU64 t ∧ fractional t < 250

/-- **send_spec**: a successful `send` returns a stamp strictly greater than the old clock value, with
the clock's node id, whose time is the larger of the old logical time and the wall clock and at
most `MAX_CLOCK_DRIFT` ahead of the wall clock. -/
theorem send_spec (c wall c' : Nat) (hw : WallOk wall)
    (h : send c wall = .ok c') :
    c < c' ∧ node c' = node c ∧ dts c' = max (dts c) wall ∧ wall ≤ dts c' ∧
      dts c' ≤ wall + MAX_CLOCK_DRIFT_MS ∧ IsU64 c' ∧ fractional c' < 250 := by
  obtain ⟨hd, hs, k, hk, hlt, rfl⟩ := h ▸ send_exit c wall
  obtain ⟨e1, e2, e3, e4, e5⟩ := pack_spec _ k (node c) hs hk (node_lt c) (max_mod4 (dts_mod4 c) hw)
  refine ⟨lt_of_time c _ e5 ?_, e3, e1, le_of_le_of_eq (Nat.le_max_right _ _) e1.symm,
    le_of_eq_of_le e1 (Nat.max_le.2 ⟨hd, Nat.le_add_right _ _⟩), e4, e5⟩
  rw [e1, e2]
  exact (Nat.lt_or_eq_of_le (Nat.le_max_left _ _)).imp id fun h => ⟨h, .inl (hlt (h ▸ Nat.le_max_right ..))⟩

/-- `send` fails exactly for the documented reasons — the clock is more than the drift ahead of the
wall clock, the counter is exhausted, or (D16) the logical time no longer fits the 32-bit seconds. -/
theorem send_error_iff (c wall : Nat) :
    (send c wall = .error .clockDrift ↔ dts c > wall + MAX_CLOCK_DRIFT_MS) ∧
    (send c wall = .error .overflow ↔
        dts c ≤ wall + MAX_CLOCK_DRIFT_MS ∧
          (durSecs (max (dts c) wall) > TIMESTAMP_MAX ∨ (wall ≤ dts c ∧ counter c = 65535))) ∧
    (send c wall ≠ .error .duplicatedNode) := by
  match send c wall, send_exit c wall with
  | .error .clockDrift, hd => exact ⟨iff_of_true rfl hd, iff_of_false nofun fun h => Nat.not_lt.2 h.1 hd, nofun⟩
  | .error .overflow, ⟨hd, ho⟩ => exact ⟨iff_of_false nofun (Nat.not_lt.2 hd), iff_of_true rfl ⟨hd, ho⟩, nofun⟩
  | .ok _, ⟨hd, hs, k, hk, hlt, _⟩ => exact ⟨iff_of_false nofun (Nat.not_lt.2 hd), iff_of_false nofun (by grind), nofun⟩

/-- **recv_spec**: a successful `recv` leaves the clock strictly greater than both its old value and
the received stamp, keeps the clock's node id, returns the new time and counter under the
*sender's* node id (`r / 256 = c' / 256`: all but the node byte agree), and stays within the drift bound. -/
theorem recv_spec (c wall msg c' r : Nat) (hw : WallOk wall)
    (h : recv c wall msg = .ok (c', r)) :
    c < c' ∧ msg < c' ∧ node c' = node c ∧ node c ≠ node msg ∧
    node r = node msg ∧ r / 256 = c' / 256 ∧
    dts c' = max (max (dts c) wall) (dts msg) ∧ dts c' ≤ wall + MAX_CLOCK_DRIFT_MS ∧
    IsU64 c' ∧ fractional c' < 250 := by
  obtain ⟨hn, hdm, hdc, hs, k, _, hk, hkc, hkm, rfl, rfl⟩ := h ▸ recv_exit c wall msg
  obtain ⟨e1, e2, e3, e4, e5⟩ :=
    pack_spec _ k (node c) hs hk (node_lt c) (max_mod4 (max_mod4 (dts_mod4 c) hw) (dts_mod4 msg))
  have above : ∀ t, dts t ≤ _ → (_ = dts t → counter t < k) → t < pack _ k (node c) :=
    fun t hle hlt => lt_of_time t _ e5 <| by
      rw [e1, e2]; exact (Nat.lt_or_eq_of_le hle).imp id fun h => ⟨h, .inl (hlt h.symm)⟩
  exact ⟨above c (Nat.le_trans (Nat.le_max_left _ _) (Nat.le_max_left _ _)) hkc,
    above msg (Nat.le_max_right _ _) hkm, e3, hn, (pack_fields _ k _ hs hk (node_lt msg)).2.2.2,
    (pack_div_256 k hs (node_lt msg)).trans (pack_div_256 k hs (node_lt c)).symm, e1,
    le_of_eq_of_le e1 (Nat.max_le.2 ⟨Nat.max_le.2 ⟨hdc, Nat.le_add_right _ _⟩, hdm⟩), e4, e5⟩

/-- Since the `fix:` commit for D16 the `assert!` inside `recv`'s final `Self::new` is unreachable for
EVERY wall reading, clock value and message: the range check comes first. -/
theorem recv_no_panic (c wall msg : Nat) : recv c wall msg ≠ .panic :=
  fun h => (h ▸ recv_exit c wall msg : RecvExit c wall msg _ .panic)

/-- `recv` refuses exactly: the sender's own node id; a message, or a resulting clock, more than
`MAX_CLOCK_DRIFT` ahead of the wall clock; a logical time that no longer fits the 32-bit seconds
(D16); a counter that would pass 65535. -/
theorem recv_error_iff (c wall msg : Nat) :
    (recv c wall msg = .err .duplicatedNode ↔ node c = node msg) ∧
    (recv c wall msg = .err .clockDrift ↔ node c ≠ node msg ∧
        (dts msg > wall + MAX_CLOCK_DRIFT_MS ∨ dts c > wall + MAX_CLOCK_DRIFT_MS)) ∧
    (recv c wall msg = .err .overflow ↔ node c ≠ node msg ∧
        dts msg ≤ wall + MAX_CLOCK_DRIFT_MS ∧ dts c ≤ wall + MAX_CLOCK_DRIFT_MS ∧
        (durSecs (max (max (dts c) wall) (dts msg)) > TIMESTAMP_MAX ∨
         recvCounter (max (max (dts c) wall) (dts msg)) (dts c) (dts msg) (counter c) (counter msg)
          = .error .overflow)) := by
  match recv c wall msg, recv_exit c wall msg with
  | .err .duplicatedNode, hn =>
    exact ⟨iff_of_true rfl hn, iff_of_false nofun (fun h => h.1 hn), iff_of_false nofun (fun h => h.1 hn)⟩
  | .err .clockDrift, ⟨hn, hd⟩ =>
    exact ⟨iff_of_false nofun hn, iff_of_true rfl ⟨hn, hd⟩,
      iff_of_false nofun fun h => hd.elim (Nat.not_lt.2 h.2.1) (Nat.not_lt.2 h.2.2.1)⟩
  | .err .overflow, ⟨hn, hdm, hdc, ho⟩ =>
    exact ⟨iff_of_false nofun hn, iff_of_false nofun fun h => h.2.elim (Nat.not_lt.2 hdm) (Nat.not_lt.2 hdc),
      iff_of_true rfl ⟨hn, hdm, hdc, ho⟩⟩
  | .ok _, ⟨hn, hdm, hdc, hs, k, hk, _⟩ =>
    refine ⟨iff_of_false nofun hn, iff_of_false nofun fun h => h.2.elim (Nat.not_lt.2 hdm) (Nat.not_lt.2 hdc),
      iff_of_false nofun ?_⟩
    rw [hk]
    exact fun h => h.2.2.2.elim (Nat.not_lt.2 hs) nofun

/-- One call on the clock, with the wall-clock reading it observes. -/
inductive Call where
  | send (wall : Nat)
  | recv (wall msg : Nat)

/-- What a successful call contributes to the history. -/
inductive Ev where
  | issued (t : Nat)      -- `send` returned `t`
  | accepted (m : Nat)    -- `recv` accepted the remote stamp `m`

def Ev.stamp : Ev → Nat
  | .issued t => t
  | .accepted m => m

/-- A failed call leaves the clock as it was (`send`/`recv` assign `self.0` only on their success path);
`.panic`, which `recv_no_panic` excludes, counts as failed here. -/
def stepClock (c : Nat) : Call → Nat × Option Ev
  | .send w => match send c w with
    | .ok c' => (c', some (.issued c'))
    | .error _ => (c, none)
  | .recv w m => match recv c w m with
    | .ok (c', _) => (c', some (.accepted m))
    | _ => (c, none)

/-- The events of a whole history, oldest first. -/
def run (c : Nat) : List Call → List Ev
  | [] => []
  | call :: rest =>
    match stepClock c call with
    | (c', some e) => e :: run c' rest
    | (c', none) => run c' rest

def finalClock (c : Nat) : List Call → Nat
  | [] => c
  | call :: rest => finalClock (stepClock c call).1 rest

def Call.WallOk : Call → Prop
  | .send w => C09.WallOk w
  | .recv w _ => C09.WallOk w

/-- What a history from clock `c` looks like: every event moves the clock strictly up and keeps the node id; an issued
stamp is the new clock, an accepted one is not above it. -/
inductive Steps : Nat → List Ev → Prop
  | nil (c : Nat) : Steps c []
  | cons {c c' : Nat} {e : Ev} {evs : List Ev} : c < c' → node c' = node c → e.stamp ≤ c' →
      (∀ t, e = .issued t → t = c') → Steps c' evs → Steps c (e :: evs)

theorem run_steps (c : Nat) (calls : List Call) (hw : ∀ call ∈ calls, call.WallOk) : Steps c (run c calls) := by
  induction calls generalizing c with
  | nil => exact .nil c
  | cons call rest ih =>
    obtain ⟨hwc, hwr⟩ := List.forall_mem_cons.1 hw
    rw [run]
    cases call with
    | send w =>
      rw [stepClock]
      cases h : send c w with
      | error _ => exact ih c hwr
      | ok c' =>
        obtain ⟨h1, h2, _⟩ := send_spec c w c' hwc h
        exact .cons h1 h2 (Nat.le_refl _) (fun t ht => (Ev.issued.inj ht).symm) (ih c' hwr)
    | recv w m =>
      rw [stepClock]
      cases h : recv c w m with
      | ok p =>
        obtain ⟨h1, h2, h3, _⟩ := recv_spec c w m p.1 p.2 hwc h
        exact .cons h1 h3 (Nat.le_of_lt h2) nofun (ih p.1 hwr)
      | _ => exact ih c hwr

theorem Steps.issued_gt {c : Nat} {evs : List Ev} (h : Steps c evs) (t : Nat) (ht : Ev.issued t ∈ evs) :
    c < t ∧ node t = node c := by
  induction h with
  | nil => cases ht
  | cons h1 h2 _ h4 _ ih =>
    rcases List.mem_cons.1 ht with rfl | ht
    · rw [h4 t rfl]; exact ⟨h1, h2⟩
    · exact ⟨Nat.lt_trans h1 (ih ht).1, (ih ht).2.trans h2⟩

theorem Steps.monotone {c : Nat} {evs : List Ev} (h : Steps c evs) :
    evs.Pairwise (fun a b => ∀ t, b = .issued t → a.stamp < t) := by
  induction h with
  | nil => exact .nil
  | cons _ _ h3 _ hs ih => exact .cons (fun b hb t ht => Nat.lt_of_le_of_lt h3 (hs.issued_gt t (ht ▸ hb)).1) ih

/-- **history_monotone**: in every history of calls — any interleaving of `send` and `recv`,
wall readings stalled, jumping or running backwards, any remote stamps — every stamp the clock
issues is strictly greater than every stamp it issued or accepted earlier. -/
theorem history_monotone (c : Nat) (calls : List Call) (hw : ∀ call ∈ calls, call.WallOk) :
    (run c calls).Pairwise (fun a b => ∀ t, b = .issued t → a.stamp < t) :=
  (run_steps c calls hw).monotone

/-- Every issued stamp carries the clock's own node id. -/
theorem issued_node (c : Nat) (calls : List Call) (hw : ∀ call ∈ calls, call.WallOk)
    (t : Nat) (h : Ev.issued t ∈ run c calls) : node t = node c :=
  ((run_steps c calls hw).issued_gt t h).2

/-- A concrete history: stalled wall clock, a jump backwards, a remote stamp ahead of the wall clock, a
refused own-node stamp. -/
example :
    let calls := [Call.send 1000000, .send 1000000, .recv 999000 (pack 1003000 7 2),
                  .recv 999000 (pack 1003000 7 1), .send 4000]
    (∀ call ∈ calls, call.WallOk) ∧ (run (pack 0 0 1) calls).length = 4 := by
  refine ⟨?_, by decide⟩
  intro call h
  simp only [List.mem_cons, List.mem_nil_iff, or_false] at h
  rcases h with rfl | rfl | rfl | rfl | rfl <;> (unfold Call.WallOk WallOk; grind)


/-- `WallOk` is not an assumption about the environment: it holds of `get_datacake_timestamp` whatever the
system clock says, before the datacake epoch included. -/
theorem wallOfUnix_wallOk (unixMs : Nat) : WallOk (wallOfUnix unixMs) :=
  parts_mod4 _ _

/-- From the epoch on the conversion is the pinned one, rounded down to 4 ms. -/
theorem wallOfUnix_of_le (unixMs : Nat) (h : DATACAKE_EPOCH_MS ≤ unixMs) :
    wallOfUnixLegacy unixMs = some (wallOfUnix unixMs) ∧
    wallOfUnix unixMs ≤ unixMs - DATACAKE_EPOCH_MS ∧ unixMs - DATACAKE_EPOCH_MS < wallOfUnix unixMs + 4 := by
  exact ⟨if_neg (Nat.not_lt.2 h), parts_dur_le _⟩

/-- Before the epoch the reading counts as the epoch, where the pinned conversion panicked. -/
theorem wallOfUnix_before_epoch (unixMs : Nat) (h : unixMs < DATACAKE_EPOCH_MS) :
    wallOfUnix unixMs = 0 ∧ wallOfUnixLegacy unixMs = none := by
  refine ⟨?_, if_pos h⟩
  rw [wallOfUnix, Nat.sub_eq_zero_of_le (Nat.le_of_lt h)]
  rfl

/-- The witness of D28 (23 June 2022 on the system clock): the pinned code panics, the repaired one
issues the next stamp. -/
theorem legacy_wall_before_epoch_panics :
    wallOfUnixLegacy 1656000000000 = none ∧
    (send (pack 10000 0 1) (wallOfUnix 1656000000000)).toOption = some (pack 10000 1 1) := by decide

/-- Before the fix for D16, a wall reading past the 32-bit seconds made `send` succeed with a stamp far
BELOW the clock (the packed seconds wrapped): the clock went backwards.  Here the clock is
(4294963913 s, 220, 2, node 1), the wall reading 4294968015.232 s is past 2^32 s, and the result has
4294968015 - 2^32 = 719 in its seconds field. -/
theorem legacy_send_wraps :
    (sendLegacy 18446729547526177281 4294968015232).toOption = some 3089054564353 ∧
    (send 18446729547526177281 4294968015232).toOption = none := by decide

end Datacake.C09
