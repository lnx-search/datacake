/-
C06 with the replicas the selector picked: `write_spec` (`Props/C06b.lean`) takes the selected replicas
as given; here they ARE the result of `select_nodes` (`C15.select_sound`) for the level of the call,
mapped from addresses to nodes by any map that is injective on the layout (an address is one node:
D21/D30), and the sentence of the property comes out whole -

  when the write returns `Ok` for level `L`, the mutation (or a newer one for the same id) is held
  by the issuing node and by every selected node; the selected nodes are pairwise distinct, none of
  them is the issuer, and there are at least as many as `L` requires.

`hchoice` has the shape in which `C15.select_sound` takes the random choice.
-/
import Datacake.Props.C06b
import Datacake.Props.C15

namespace Datacake.C06
open Datacake.Lww Datacake.OrSwot Datacake.Storage Datacake.Keyspace Datacake.Cluster
open Datacake.Selector Datacake.C15

theorem ok_write_reaches_what_the_level_promises
    (c : Cluster) (down hangNext stuck : List Nat) (i : Nat) (iss : Issued)
    (local_ localDc total : Nat) (dcs : Dcs) (lvl : Level) (choice : List Nat) (ns : List Nat)
    (node : Nat → Nat)
    (wf : Selector.WF dcs) (hl : ∃ d, getDc dcs localDc = some d)
    (hchoice : ∀ n, (lvl = .one → n = 1) → (lvl = .two → n = 2) → (lvl = .three → n = 3) →
      (lvl = .one ∨ lvl = .two ∨ lvl = .three) → GoodChoice dcs n choice)
    (hsel : (selectNodes local_ localDc total dcs lvl choice).1 = .ok ns)
    -- the addresses of the layout are nodes of the cluster; the local address is the issuer
    (hinj : ∀ a b, a ∈ local_ :: allNodes dcs → b ∈ local_ :: allNodes dcs → node a = node b → a = b)
    (hlocal : node local_ = i)
    (hrange : ∀ a ∈ allNodes dcs, node a < c.nodes.length) (hi : i < c.nodes.length)
    -- the premises about the data (C02, C09)
    (hagree : ∀ x, Agree (getNode c x).ks) (hfresh : ∀ x, Fresh (getNode c x).ks.set iss)
    (hok : (write c down hangNext stuck i (ns.map node) iss).2.2 = .done (.ok ())) :
    let c' := (write c down hangNext stuck i (ns.map node) iss).1
    HoldsAt c' i iss ∧ (∀ t ∈ ns.map node, HoldsAt c' t iss) ∧
    (ns.map node).Nodup ∧ i ∉ ns.map node ∧
    (ns.map node).length ≥ required lvl local_ localDc total dcs := by
  intro c'
  obtain ⟨hnd, hnl, hsub, hlen, _⟩ := (select_sound local_ localDc total dcs lvl choice wf hl hchoice).2.2 ns hsel
  have hmem : ∀ x ∈ ns, x ∈ local_ :: allNodes dcs := fun x hx => List.mem_cons_of_mem _ (hsub x hx)
  have hnd' : (ns.map node).Nodup :=
    List.pairwise_map.2 (hnd.imp_of_mem fun ha hb hne e => hne (hinj _ _ (hmem _ ha) (hmem _ hb) e))
  have hns : i ∉ ns.map node := by
    intro hm
    rcases List.mem_map.1 hm with ⟨a, ha, hai⟩
    have : a = local_ := hinj a local_ (hmem a ha) (List.mem_cons_self ..) (hai.trans hlocal.symm)
    exact hnl (this ▸ ha)
  have hw : WriteOk c i (ns.map node) iss :=
    ⟨hnd', hns, hi, List.forall_mem_map.2 fun a ha => hrange a (hsub a ha), hagree, hfresh⟩
  have hspec := write_spec c down hangNext stuck i (ns.map node) iss hw
  rw [hok] at hspec
  simp only at hspec
  exact ⟨hspec.1, hspec.2, hnd', hns, by rw [List.length_map]; exact hlen⟩

end Datacake.C06
