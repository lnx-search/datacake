/-
C07 — A restarted node rebuilds exactly what storage holds; acked writes survive.

Model: `Keyspace.loadFromStorage` (`KeyspaceGroup::load_states_from_storage`: metadata rows sorted
by stamp, replayed with `insert` / `delete` on source 0 into an empty two-source set).
A crash is modelled on the *process state*: whatever the store holds at that moment — after a
request, or between the storage write and the set update inside one — the restarted node's set is
`loadFromStorage store`.
-/
import Datacake.Lemmas.Handlers
import Datacake.Lemmas.SafeExact

namespace Datacake.C07
open Datacake.Lww Datacake.OrSwot Datacake.Storage Datacake.Keyspace Datacake.Ts

/-- While only source 0 has been used the other source holds the default for every origin, so the
safe cut-off of an origin `X` never exceeds that default, `pack 0 0 X = X` (`pack_zero`): nothing is
ever "before the last observed event". -/
structure OnlySrc0 (F : Nat) (s : OrSwot) : Prop where
  quiet : s.maxs[1]? = some []
  exact : SafeExact F s

theorem notBefore_of_onlySrc0 {F : Nat} (s : OrSwot) (h : OnlySrc0 F s) (t : Nat) : isBefore s.safe t = false := by
  rw [isBefore_eq_false_iff]
  intro v hg
  obtain ⟨x, xs, e, rfl⟩ := h.exact.some_ _ _ hg
  have hle := minList_le x xs (pack 0 0 (node t)) (e ▸ List.mem_map.2 ⟨[], List.mem_of_getElem? h.quiet, rfl⟩)
  rw [pack_zero] at hle
  rw [forgive_of_lt F _ (Nat.lt_of_le_of_lt hle (node_lt t))]
  exact Nat.le_trans hle (node_le t)

theorem onlySrc0_applyOp (F : Nat) (s : OrSwot) (o : Op) (h : OnlySrc0 F s) :
    OnlySrc0 F (applyOp F s ⟨0, o⟩).1 := by
  obtain ⟨h1, h2⟩ := applyOp_bumped F s ⟨0, o⟩ (notBefore_of_onlySrc0 s h o.ts)
  exact ⟨(applyOp_maxs_other F s ⟨0, o⟩ 1 nofun).trans h.quiet,
    safeExact_congr F _ _ h1 h2 (safeExact_bumped F s 0 o.ts h.exact)⟩

theorem accepted_src0 (F : Nat) (ops : List Op) {s : OrSwot} (h : OnlySrc0 F s) :
    C04.Accepted F s (ops.map (SrcOp.mk 0)) := by
  induction ops generalizing s with
  | nil => trivial
  | cons o os ih =>
    exact ⟨notBefore_of_onlySrc0 s h o.ts, ih (onlySrc0_applyOp F s o h)⟩

def rowOps (rows : List (Nat × (Nat × Bool))) : List Op := rows.map (fun p => ⟨p.1, p.2.1, p.2.2⟩)

theorem loadFromStorage_eq (F : Nat) (ks : Storage.Keyspace) :
    ∃ ops : List Op, ops.Perm (rowOps ks.rows) ∧
      loadFromStorage F ks = applyAll F (OrSwot.empty 2) (ops.map (SrcOp.mk 0)) := by
  have hperm := (loadSort_perm (ks.rows.map (fun p => (p.1, p.2.1, p.2.2)))).map
    (fun e => (⟨e.1, e.2.1, e.2.2⟩ : Op))
  rw [List.map_map] at hperm
  refine ⟨_, hperm, ?_⟩
  simp only [loadFromStorage, applyAll, List.foldl_map]
  congr 1
  funext s e
  unfold applyOp
  split <;> rfl

def RowsNodup (ks : Storage.Keyspace) : Prop := (ks.rows.map (·.1)).Nodup

theorem storeView_overwrites (ks : Storage.Keyspace) (hnd : RowsNodup ks) :
    Overwrites (rowOps ks.rows) (fun _ => none) (storeView ks) := by
  intro k
  rw [storeView_rows]
  constructor
  · intro o ho hk
    obtain ⟨p, hp, rfl⟩ := List.mem_map.1 ho
    rw [← hk, (mem_iff_aget ks.rows hnd p.1 p.2).1 hp]; rfl
  · intro hno
    cases hg : aget ks.rows k with
    | none => rfl
    | some r => exact absurd rfl (hno _ (List.mem_map_of_mem ((mem_iff_aget ks.rows hnd k r).2 hg)))

/-- **load_exact**: the set rebuilt by `load_states_from_storage` contains exactly the live ids
and tombstones, with the same stamps, that storage holds — nothing else. -/
theorem load_exact (F : Nat) (ks : Storage.Keyspace) (hnd : RowsNodup ks) :
    (∀ k, view (loadFromStorage F ks) k = storeView ks k) ∧ Disj (loadFromStorage F ks) := by
  obtain ⟨ops, hperm, e⟩ := loadFromStorage_eq F ks
  have hkeys : (ops.map (·.key)).Nodup := by
    rw [(hperm.map _).nodup_iff, rowOps, List.map_map]; exact hnd
  obtain ⟨hv, hdj⟩ := view_applyAll F (OrSwot.empty 2) 0 id ops (C04.disj_empty 2) hkeys
    (fun _ _ y hy => by cases hy) (accepted_src0 F ops ⟨rfl, safeExact_empty F 2⟩)
  rw [e]
  exact ⟨(List.map_id ops ▸ hv).unique (storeView_overwrites ks hnd) (fun _ => hperm.mem_iff) (fun _ => rfl), hdj⟩

/-- A store that can arise at a crash point: rows form a map and bytes exist exactly for the live
rows.  (Both are kept by every storage write of every handler, complete or partial:
`storeWf_put`, `storeWf_tomb`.) -/
def StoreWf (ks : Storage.Keyspace) : Prop := RowsNodup ks ∧ DataOk ks

theorem storeWf_put (ks : Storage.Keyspace) (d : Doc) (h : StoreWf ks) : StoreWf (storePut ks d) :=
  ⟨nodup_keys_aset h.1, dataOk_put h.2⟩

theorem storeWf_tomb (ks : Storage.Keyspace) (id ts : Nat) (h : StoreWf ks) : StoreWf (storeTomb ks id ts) :=
  ⟨nodup_keys_aset h.1, dataOk_tomb h.2⟩

/-- **crash_anywhere**: stop the node at any point — after a request, or between the storage
write and the in-memory update inside one (so the store may be *ahead* of the old set) — and start
it again on the same storage: the rebuilt set agrees with the store as it is. -/
theorem crash_anywhere (F : Nat) (ks : Storage.Keyspace) (h : StoreWf ks) :
    Agree { set := loadFromStorage F ks, store := ks } :=
  ⟨(load_exact F ks h.1).1, (load_exact F ks h.1).2, h.2⟩

/-- **acked_survives**: a `Set` that `will_apply` admitted and storage accepted has been written to
storage, so a node restarted on the store as the handler left it sees that document.  For a `Set` that
was refused the statement says nothing about the store (`C06.ack_put_holds` does). -/
theorem acked_survives (F : Nat) (n : Node) (src : Nat) (d : Doc) (h : Agree n)
    (hok : (onSet F n src d false).2 = .ok) (hwf : StoreWf (onSet F n src d false).1.store) :
    ∃ r, view (loadFromStorage F (onSet F n src d false).1.store) d.1 = some r ∧ liveRec d.2.1 ≤ r ∨
      willApply n.set d.1 d.2.1 = false := by
  cases hw : willApply n.set d.1 d.2.1 with
  | false => exact ⟨0, Or.inr rfl⟩
  | true =>
    refine ⟨liveRec d.2.1, Or.inl ⟨?_, Nat.le_refl _⟩⟩
    rw [(load_exact F _ hwf.1).1, onSet_eq, onOne_fst, if_pos ⟨hw, rfl⟩]
    exact storeView_write F n src ⟨d.1, d.2.1, false⟩ d.2.2

/-- Reload of a concrete store with a live document and a tombstone. -/
example :
    let ks := storeTomb (storePut (storePut {} (1, Ts.pack 5000000 0 1, [9])) (2, Ts.pack 4000000 0 1, []))
      1 (Ts.pack 6000000 0 2)
    StoreWf ks ∧ OrSwot.get (loadFromStorage 3600000 ks) 2 = some (Ts.pack 4000000 0 1) ∧
    OrSwot.get (loadFromStorage 3600000 ks) 1 = none ∧
    Map.get (loadFromStorage 3600000 ks).dead 1 = some (Ts.pack 6000000 0 2) := by
  refine ⟨?_, by decide, by decide, by decide⟩
  exact storeWf_tomb _ _ _ (storeWf_put _ _ (storeWf_put _ _ ⟨List.nodup_nil, dataOk_empty⟩))

end Datacake.C07
