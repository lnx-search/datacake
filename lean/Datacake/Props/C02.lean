/-
C02 — On each node the replicated metadata and the persisted store never disagree.

Model: `Model/Keyspace.lean` (the `KeyspaceActor` handlers over the reference store, storage
failures as explicit oracle arguments); `Req`, `handle` are defined in `Lemmas/Handlers.lean`.
`Agree` (`Lemmas/Keyspace.lean`) is the property.
-/
import Datacake.Lemmas.Handlers
import Datacake.Lemmas.Newest

namespace Datacake.C02
open Datacake.Lww Datacake.OrSwot Datacake.Storage Datacake.Keyspace

/-- **agree_onSet**: a `Set` request — any stamp, origin, source; storage failing or not — keeps
the set and the store in agreement: the document is applied to both or to neither. -/
theorem agree_onSet (F : Nat) (n : Node) (src : Nat) (d : Doc) (fail : Bool) (h : Agree n) :
    Agree (onSet F n src d fail).1 :=
  agree_onOne F n src ⟨d.1, d.2.1, false⟩ d.2.2 fail h

/-- **agree_onDel**: likewise for a `Del` request. -/
theorem agree_onDel (F : Nat) (n : Node) (src id ts : Nat) (fail : Bool) (h : Agree n) :
    Agree (onDel F n src id ts fail).1 :=
  agree_onOne F n src ⟨id, ts, true⟩ [] fail h

/-- The single-document handlers apply a mutation to both the set and the store, or to neither,
and report an error exactly when storage failed on a document that would have been applied. -/
theorem set_both_or_neither (F : Nat) (n : Node) (src : Nat) (d : Doc) (fail : Bool) (h : Agree n) :
    let r := onSet F n src d fail
    (r.1 = n ∨ (view r.1.set d.1 = some (liveRec d.2.1) ∧ storeView r.1.store d.1 = some (liveRec d.2.1))) ∧
    (r.2 ≠ .ok ↔ (willApply n.set d.1 d.2.1 = true ∧ fail = true)) := by
  simp only [onSet_eq, onOne_fst, onOne_snd]
  constructor
  · split
    · rename_i hw
      obtain ⟨hv, _⟩ := applyOp_admitted F n.set src ⟨d.1, d.2.1, false⟩ h.disj hw.1
      exact Or.inr ⟨by rw [Node.write, hv, if_pos rfl]; rfl, storeView_write F n src ⟨d.1, d.2.1, false⟩ d.2.2⟩
    · exact Or.inl rfl
  · split
    · rename_i hc; exact ⟨fun _ => hc, fun _ h => by cases h⟩
    · rename_i hc; exact ⟨fun h => absurd rfl h, fun h => absurd h hc⟩

/-- **agree_onPurge**: `PurgeDeletes` — storage removing all, none, or an arbitrary reported
sub-list of the purged tombstones — keeps the set and the store in agreement: a tombstone
disappears from both or stays in both. -/
theorem agree_onPurge (n : Node) (removed : Option (List Nat)) (h : Agree n) :
    Agree (onPurge n removed).1 := by
  -- `done`: the purged tombstones whose rows storage removed; the others go back into the set
  have key : ∀ done : List (Nat × Nat), (∀ p ∈ done, p ∈ (purgeOldDeletes n.set).2) →
      Agree { set := addRawTombstones (purgeOldDeletes n.set).1
                ((purgeOldDeletes n.set).2.filter (fun p => !(done.map (·.1)).contains p.1)),
              store := done.foldl (fun ks p => { ks with rows := aerase ks.rows p.1 }) n.store } := by
    intro done hsub
    obtain ⟨hv, hdj⟩ := view_purge_readd n.set h.disj done hsub
    refine ⟨fun k => by rw [hv k, storeView_eraseRows, h.same k], hdj, dataOk_eraseRows _ _ h.data ?_⟩
    -- a purged key is a tombstone in the set, hence in the store
    intro p hp ts hrow
    exact nomatch (view_live.1 ((h.same p.1).trans (storeView_live.2 hrow))).symm.trans
      (h.disj.entries_none ((mem_purged n.set p.1 p.2).1 (hsub p hp)).1)
  unfold onPurge
  cases removed with
  | none =>
    have := key (purgeOldDeletes n.set).2 (fun _ hp => hp)
    rwa [List.filter_eq_nil_iff.2 (fun p hp => by simp [List.mem_map_of_mem hp])] at this
  | some idxs => exact key _ (fun p hp => (pick_sublist _ idxs).subset hp)

/-- Side condition of a bulk request, at the state in which it arrives: the `hacc` of `agree_onBulk`.
`Props/C02b.lean` does without it (`accepted_batch`). -/
def ReqOk (F : Nat) (n : Node) : Req → Prop
  | .mset src docs _ =>
      ∀ l, (∀ e ∈ l, e ∈ ((newest (fun (v : Nat × List Nat) => v.1) docs).filter (fun d => willApply n.set d.1 d.2.1)).map (fun d => (d.1, d.2.1))) →
        (l.map (·.1)).Nodup → l.Pairwise (fun a b => a.2 ≤ b.2) → C04.Accepted F n.set (toOps src false l)
  | .mdel src docs _ =>
      ∀ l, (∀ e ∈ l, e ∈ ((newest (fun (t : Nat) => t) docs).filter (fun d => willApply n.set d.1 d.2)).map (fun d => (d.1, d.2))) →
        (l.map (·.1)).Nodup → l.Pairwise (fun a b => a.2 ≤ b.2) → C04.Accepted F n.set (toOps src true l)
  | _ => True

def ReqsOk (F : Nat) : Node → List Req → Prop
  | _, [] => True
  | n, r :: rs => ReqOk F n r ∧ ReqsOk F (handle F n r) rs

theorem agree_handle (F : Nat) (n : Node) (r : Req) (h : Agree n) (hok : ReqOk F n r) :
    Agree (handle F n r) := by
  cases r with
  | set src d fail => exact agree_onSet F n src d fail h
  | del src id ts fail => exact agree_onDel F n src id ts fail h
  | mset src docs w =>
    rw [handle, onMultiSet, onMultiSetCore_eq]
    exact agree_onBulk _ false _ F n src _ w h (newest_nodup _ docs) hok
  | mdel src docs w =>
    rw [handle, onMultiDel, onMultiDelCore_eq]
    exact agree_onBulk _ true _ F n src _ w h (newest_nodup _ docs) hok
  | purge r => exact agree_onPurge n r h

/-- **agree_onMultiSet**: the `MultiSet` handler, for a request of any shape — a document may be named
any number of times, in any stamp order (fix D13) — keeps set and store in agreement, given `ReqOk`. -/
theorem agree_onMultiSet (F : Nat) (n : Node) (src : Nat) (docs : List Doc) (written : Option (List Nat))
    (h : Agree n) (hok : ReqOk F n (.mset src docs written)) :
    Agree (onMultiSet F n src docs written).1 :=
  agree_handle F n (.mset src docs written) h hok

/-- **agree_onMultiDel**: the same for `MultiDel`. -/
theorem agree_onMultiDel (F : Nat) (n : Node) (src : Nat) (docs : List (Nat × Nat)) (written : Option (List Nat))
    (h : Agree n) (hok : ReqOk F n (.mdel src docs written)) :
    Agree (onMultiDel F n src docs written).1 :=
  agree_handle F n (.mdel src docs written) h hok

/-- **agree_reachable**: after every completed request of every history — single or bulk, any
stamps, origins and sources, in any arrival order, with storage failing at any of the modelled
points — the set and the store of the node agree, given `ReqsOk` along the history. -/
theorem agree_reachable (F : Nat) (reqs : List Req) (n : Node) (h : Agree n) (hok : ReqsOk F n reqs) :
    Agree (reqs.foldl (handle F) n) := by
  induction reqs generalizing n with
  | nil => exact h
  | cons r rs ih => exact ih _ (agree_handle F n r h hok.1) hok.2

theorem agree_empty : Agree {} := ⟨fun _ => rfl, fun _ => Or.inl rfl, dataOk_empty⟩

/-- Defect D1 seen from the actor (pinned acceptance rule): `Set(k1 @5000 s)` then `Set(k2 @4000 s)`,
same origin, same source: `will_apply` says yes, storage is written, the set refuses — the store
holds document 2, the set does not. -/
theorem legacy_counterexample :
    let t1 := Ts.pack 5000000 0 0
    let t2 := Ts.pack 4000000 0 0
    let s1 := (insertWithSourceLegacy 3600000 (OrSwot.empty 2) 0 1 t1).1
    willApply s1 2 t2 = true ∧
    view (insertWithSourceLegacy 3600000 s1 0 2 t2).1 2 = none ∧
    storeView (storePut (storePut {} (1, t1, [])) (2, t2, [])) 2 = some (liveRec t2) := by
  decide

/-- Defect D13 (pinned handler = `onMultiSetCore` on the raw request): a bulk request carrying one
id twice with descending stamps — storage applies in request order (the older stamp last), the set
in stamp order (the newer last).  A replica receives such a request when two overlapping mutations
of one key registered with the distributor out of order.  The current handler (`onMultiSet`, which
keeps the newest entry per document first) leaves set and store in agreement on the newer one. -/
theorem dup_ids_descending_disagree :
    let t1 := Ts.pack 5000000 0 0
    let t2 := Ts.pack 5000004 0 0
    let n := (onMultiSetCore 3600000 {} 0 [(7, t2, [2]), (7, t1, [1])] none).1
    let m := (onMultiSet 3600000 {} 0 [(7, t2, [2]), (7, t1, [1])] none).1
    view n.set 7 = some (liveRec t2) ∧ storeView n.store 7 = some (liveRec t1) ∧
    view m.set 7 = some (liveRec t2) ∧ storeView m.store 7 = some (liveRec t2) := by
  decide

/-- A failing bulk call makes exactly the reported document visible. -/
example :
    let t1 := Ts.pack 5000000 0 1
    let t2 := Ts.pack 5000004 0 2
    let r := onMultiSetCore 3600000 {} 0 [(1, t1, [1]), (2, t2, [2])] (some [1])
    r.2 = .err [2] ∧ view r.1.set 2 = some (liveRec t2) ∧ view r.1.set 1 = none ∧
    storeView r.1.store 2 = some (liveRec t2) ∧ storeView r.1.store 1 = none := by
  decide

end Datacake.C02
