/-
C01, without the atomicity assumption — convergence when an exchange is NOT atomic with respect to
the peer.

`Props/C01.lean` treats an exchange `j ← i` as one step against the peer's CURRENT state.  The code
takes the peer's state first (`GetState`), computes the difference, and fetches the documents of the
modified half LATER (`FetchDocs` reads the peer's store as it is then); in between the peer may have
applied late deliveries or other exchanges.  `j` then applies the removals as listed and, for a listed
modification, whatever the peer's store holds for that id at fetch time — the listed document, a
newer one, or nothing.

`exchangeNA j i snapA order`: `snapA` is what the peer had applied when its state was taken, `order`
what `j` ends up applying.  An operation superseded at the peer in between may be missed — so
`exchange_transfers` is false here.  But the greatest operation on a key can never be superseded, its
origin holds it from the moment it was issued, and the exchange against that origin transfers it.

The executable counterpart is `Model/Cluster.lean: repairBegin / repairEnd`, exercised against the
real poller with the peer's fetch held at a gate (checks/C01.py).  The Lean theorems tie the two only
when nothing happens in between (`Split.repair_split_eq`).
-/
import Datacake.Props.C01
import Datacake.Model.Cluster

namespace Datacake.C01c
open Datacake.Lww Datacake.OrSwot Datacake.Ts Datacake.C05 Datacake.C01

/-- The first two events are those of `Props/C01.lean`, with the same `step` and `Valid`. -/
inductive Ev where
  | apply (j src : Nat) (o : Op)
  | exchange (j i : Nat) (order : List SrcOp)
  | exchangeNA (j i : Nat) (snapA : List Op) (order : List SrcOp)

def step (F : Nat) (c : Cl) : Ev → Cl
  | .apply j src o => upd c j ⟨(applyOp F (c j).s ⟨src, o⟩).1, o :: (c j).A⟩
  | .exchange j _ order => upd c j ⟨applyAll F (c j).s order, (order.map (·.op)).reverse ++ (c j).A⟩
  | .exchangeNA j _ _ order => upd c j ⟨applyAll F (c j).s order, (order.map (·.op)).reverse ++ (c j).A⟩

def run (F : Nat) (c : Cl) (evs : List Ev) : Cl := evs.foldl (step F) c

/-- `o` is the replica's current record of its key. -/
def Current (r : Replica) (o : Op) : Prop := view r.s o.key = some (rank o)

def Valid (H : List Op) (c : Cl) : Ev → Prop
  | .apply _ _ o => o ∈ H
  | .exchange j i order =>
    (∀ o ∈ order, o.op ∈ diffOps (c j).s (c i).s) ∧ (∀ o ∈ diffOps (c j).s (c i).s, ∃ so ∈ order, so.op = o)
  | .exchangeNA j i snapA order =>
    (∀ o ∈ snapA, o ∈ (c i).A) ∧ (∀ so ∈ order, so.op ∈ (c i).A) ∧
    (∀ o ∈ snapA, Current (c i) o → Knows (c j) o ∨ ∃ so ∈ order, so.op = o)

def ValidRun (F : Nat) (H : List Op) : Cl → List Ev → Prop
  | _, [] => True
  | c, e :: es => Valid H c e ∧ ValidRun F H (step F c e) es

theorem validRun_append {F : Nat} (H : List Op) (a : Cl) {e1 e2 : List Ev}
    (h1 : ValidRun F H a e1) (h2 : ValidRun F H (run F a e1) e2) : ValidRun F H a (e1 ++ e2) := by
  induction e1 generalizing a with
  | nil => exact h2
  | cons e rest ih => exact ⟨h1.1, ih _ h1.2 h2⟩

theorem good_step (F : Nat) (H : List Op) (hh : Hist F H) (c : Cl) (e : Ev) (hg : Good F H c)
    (hv : Valid H c e) : Good F H (step F c e) := by
  cases e with
  | apply j src o => exact C01.good_step F H hh c (.apply j src o) hg hv
  | exchange j i order => exact C01.good_step F H hh c (.exchange j i order) hg hv
  | exchangeNA j i _ order => exact good_applyOps hh hg j fun so h => (hg i).2 _ (hv.2.1 so h)

theorem good_run (F : Nat) (H : List Op) (hh : Hist F H) (evs : List Ev) (c : Cl) (hg : Good F H c)
    (hv : ValidRun F H c evs) : Good F H (run F c evs) := by
  induction evs generalizing c with
  | nil => exact hg
  | cons e es ih => exact ih _ (good_step F H hh c e hg hv.1) hv.2

theorem grows_step (F : Nat) (c : Cl) (e : Ev) (x : Nat) (o : Op) (ho : o ∈ (c x).A) : o ∈ (step F c e x).A := by
  cases e with
  | apply j src o' => exact C01.grows_step F c (.apply j src o') x o ho
  | exchange j i order => exact C01.grows_step F c (.exchange j i order) x o ho
  | exchangeNA j _ _ order => exact mem_applyOps F c j order ho

theorem grows_run (F : Nat) (evs : List Ev) (c : Cl) (x : Nat) (o : Op) (ho : o ∈ (c x).A) :
    o ∈ (run F c evs x).A :=
  List.foldlRecOn evs (step F) ho fun c h e _ => grows_step F c e x o h

theorem knows_run (F : Nat) (H : List Op) (hh : Hist F H) (evs : List Ev) (c : Cl) (hg : Good F H c)
    (hv : ValidRun F H c evs) (x : Nat) (o : Op) (hk : Knows (c x) o) : Knows (run F c evs x) o :=
  hk.mono (hg x).1 (good_run F H hh evs c hg hv x).1 (grows_run F evs c x)

/-- `o` is the last-writer-wins winner of its key in the whole history. -/
def Winner (H : List Op) (o : Op) : Prop := o ∈ H ∧ ∀ o' ∈ H, o'.key = o.key → rank o' ≤ rank o

/-- A good node that knows the winner of a key has applied it (stamps on a key are distinct). -/
theorem mem_of_knows_winner (F : Nat) (H : List Op) (hh : Hist F H) (c : Cl) (hg : Good F H c) (x : Nat) (o : Op)
    (hw : Winner H o) (hk : Knows (c x) o) : o ∈ (c x).A := by
  obtain ⟨o', ho', hkey, hle⟩ := (knows_iff (hg x).1 o).1 hk
  have hH := (hg x).2 o' ho'
  have hts := (rank_inj o' o (Nat.le_antisymm (hw.2 o' hH hkey) hle)).1
  exact hh.distinct o' hH o hw.1 hkey hts ▸ ho'

theorem current_of_winner (F : Nat) (H : List Op) (c : Cl) (hg : Good F H c) (x : Nat) (o : Op)
    (hw : Winner H o) (ho : o ∈ (c x).A) : Current (c x) o := by
  rw [Current, (hg x).1.view]
  obtain ⟨y, hy, hle⟩ := lww_ge _ _ o ho rfl
  obtain ⟨o', ho', hk, rfl⟩ := lww_mem hy
  rw [hy, Nat.le_antisymm (hw.2 o' ((hg x).2 o' ho') hk) hle]

/-- **exchangeNA_transfers_winner**: a non-atomic exchange against a peer whose state — when it was
taken — contained the winner of a key leaves the repairing node knowing that winner. -/
theorem exchangeNA_transfers_winner (F : Nat) (H : List Op) (hh : Hist F H) (c : Cl) (j i : Nat)
    (snapA : List Op) (order : List SrcOp) (hg : Good F H c) (hv : Valid H c (.exchangeNA j i snapA order))
    (o : Op) (hw : Winner H o) (ho : o ∈ snapA) : Knows (step F c (.exchangeNA j i snapA order) j) o := by
  have hg' := good_step F H hh c _ hg hv
  rcases hv.2.2 o ho (current_of_winner F H c hg i o hw (hv.1 o ho)) with hk | ⟨so, hso, rfl⟩
  · exact hk.mono (hg j).1 (hg' j).1 (grows_step F c _ j)
  · refine knows_of_mem (hg' j).1 ?_
    show so.op ∈ (applyOps F c j order j).A
    rw [applyOps_self]
    exact List.mem_append_left _ (List.mem_reverse.2 (List.mem_map_of_mem hso))

/-- The atomic exchange, restated for this event type. -/
theorem exchange_transfers (F : Nat) (H : List Op) (hh : Hist F H) (c : Cl) (j i : Nat)
    (order : List SrcOp) (hg : Good F H c) (hv : Valid H c (.exchange j i order)) (o : Op)
    (hk : Knows (c i) o) : Knows (step F c (.exchange j i order) j) o :=
  C01.exchange_transfers F H hh c j i order hg hv o hk

/-- The event is an exchange `j ← i` of either kind; a non-atomic one took the peer's state when the
peer had applied at least `A0`. -/
def IsExchange (j i : Nat) (A0 : List Op) : Ev → Prop
  | .apply _ _ _ => False
  | .exchange j' i' _ => j' = j ∧ i' = i
  | .exchangeNA j' i' snapA _ => j' = j ∧ i' = i ∧ ∀ o ∈ A0, o ∈ snapA

/-- In a history that contains an exchange `j ← i` of either kind, followed by anything: at the end
`j` knows every WINNER that `i` has applied at the start — provided a non-atomic exchange took the
peer's state when the peer had applied at least `A0 ∋ o`. -/
theorem learns_winner_through_run (F : Nat) (H : List Op) (hh : Hist F H) (evs : List Ev) (c : Cl)
    (hg : Good F H c) (hv : ValidRun F H c evs) (j i : Nat) (A0 : List Op) (e : Ev) (hmem : e ∈ evs)
    (he : IsExchange j i A0 e) (o : Op) (hw : Winner H o) (hoA0 : o ∈ A0) (ho : o ∈ (c i).A) :
    Knows (run F c evs j) o := by
  induction evs generalizing c with
  | nil => cases hmem
  | cons e' es ih =>
    have hg1 := good_step F H hh c e' hg hv.1
    rcases List.mem_cons.1 hmem with rfl | hrest
    · -- this is the exchange: j learns the winner now and keeps it
      refine knows_run F H hh es _ hg1 hv.2 j o ?_
      cases e with
      | apply => exact he.elim
      | exchange _ _ order =>
        obtain ⟨rfl, rfl⟩ := he
        exact exchange_transfers F H hh c _ _ order hg hv.1 o (knows_of_mem (hg _).1 ho)
      | exchangeNA _ _ snapA order =>
        obtain ⟨rfl, rfl, hsnap⟩ := he
        exact exchangeNA_transfers_winner F H hh c _ _ snapA order hg hv.1 o hw (hsnap o hoA0)
    · -- later: the peer keeps what it has applied
      exact ih _ hg1 hv.2 hrest (grows_step F c e' i o ho)

/-- **convergence_na**: as `C01.convergence`, but the exchanges of the quiescent phase may each be
atomic or NOT, the non-atomic ones having taken the peer's state after `pre`; and every operation has
been APPLIED at its origin after `pre`. -/
theorem convergence_na (F n : Nat) (H : List Op) (hh : Hist F H) (c0 : Cl) (hg0 : Good F H c0)
    (pre post : List Ev) (hvpre : ValidRun F H c0 pre) (hvpost : ValidRun F H (run F c0 pre) post)
    (origin : Op → Nat)
    (horigin : ∀ o ∈ H, origin o < n ∧ o ∈ (run F c0 pre (origin o)).A)
    (hpairs : ∀ j i, j < n → i < n → j ≠ i →
      ∃ e ∈ post, IsExchange j i (run F c0 pre i).A e)
    (j : Nat) (hj : j < n) (k : Nat) :
    view (run F (run F c0 pre) post j).s k = lww H k ∧
    ∀ j' < n, OrSwot.get (run F (run F c0 pre) post j).s k = OrSwot.get (run F (run F c0 pre) post j').s k := by
  have hg1 := good_run F H hh pre c0 hg0 hvpre
  have hg2 := good_run F H hh post _ hg1 hvpost
  -- at the end every node knows the winner of every key: its origin kept it, the others learnt it there
  refine lww_of_knows_greatest hg2 n k (fun x hx o ho hmax => ?_) j hj
  obtain ⟨hon, hmem⟩ := horigin o ho
  by_cases he : x = origin o
  · rw [he]; exact knows_of_mem (hg2 _).1 (grows_run F post _ _ o hmem)
  · obtain ⟨e, hepost, hex⟩ := hpairs x (origin o) hx hon he
    exact learns_winner_through_run F H hh post _ hg1 hvpost x (origin o) _ e hepost hex o ⟨ho, hmax⟩ hmem hmem

/-- Why the weaker guarantee: a non-atomic exchange CAN miss an operation the peer's state listed.
The peer's snapshot holds `put k @5000`; before the fetch the peer applies `del k @6000`; the fetch
finds nothing for `k` and the exchange applies nothing — admissible, because the put is not the
peer's current record of `k` any more. -/
example :
    let put : Op := ⟨1, pack 5000 0 1, false⟩
    let del : Op := ⟨1, pack 6000 0 2, true⟩
    let peer : Replica := ⟨(applyOp 3600000 (applyOp 3600000 (OrSwot.empty 2) ⟨0, put⟩).1 ⟨0, del⟩).1, [del, put]⟩
    let me : Replica := ⟨OrSwot.empty 2, []⟩
    let c : Cl := fun x => if x = 0 then peer else me
    Valid [put, del] c (.exchangeNA 1 0 [put] []) ∧ ¬ Current (c 0) put := by
  intro put del peer me c
  have hcur : ¬ Current (c 0) put := by unfold Current; decide
  refine ⟨⟨fun o ho => ?_, fun _ hso => (nomatch hso), fun o ho hc => ?_⟩, hcur⟩
  · cases List.mem_singleton.1 ho; exact List.mem_cons_of_mem _ List.mem_cons_self
  · cases List.mem_singleton.1 ho; exact absurd hc hcur

namespace Split
open Datacake.Cluster

theorem applyModified_nil (c : Cluster) (j i : Nat) : applyModified c j i [] = (c, true) := rfl

/-- **repair_split_eq**: in the executable cluster model, `repairBegin` followed at once by `repairEnd`
(nothing happens at the peer in between) is exactly `repair`: the split adds behaviours, it changes
none. -/
theorem repair_split_eq (c : Cluster) (j i : Nat) (rf : Bool) :
    match repairBegin c j i rf with
    | (c1, .finished out) => repair c j i rf = (c1, out)
    | (c1, .fetching p) => repair c j i rf = repairEnd c1 j p := by
  -- Both sides walk through the same tests in the same order: case on each in turn; at every leaf
  -- the two sides compute to the same term.
  unfold repairBegin repair
  dsimp -iota -proj only
  cases (getNode c i).exists_ with
  | false => rfl  -- the peer lists no keyspace
  | true =>
  cases (getNode c j).tracker.getD i none == some (getNode c i).change with
  | true => rfl  -- the tracker is current
  | false =>
  obtain ⟨modified, removed⟩ := diff (getNode (touch c j) j).ks.set (getNode c i).ks.set
  dsimp only
  cases modified with
  | nil =>
    simp only [applyModified_nil, Bool.not_true, Bool.false_eq_true, if_false, if_true, List.isEmpty_nil]
    obtain ⟨c1, ok1⟩ := applyRemovals (touch c j) j removed
    cases rf <;> cases ok1 <;> rfl
  | cons m ms =>
    cases rf with
    | true =>
      obtain ⟨c1, _ | _⟩ := applyRemovals (touch c j) j removed
      · rfl
      · simp only [repairEnd, Bool.not_true, Bool.false_eq_true, if_false, if_true, List.isEmpty_cons]
        obtain ⟨c2, ok2⟩ := applyModified c1 j i (m :: ms)
        cases ok2 <;> rfl
    | false =>
      simp only [repairEnd, Bool.not_true, Bool.false_eq_true, if_false, List.isEmpty_cons]
      obtain ⟨c2, _ | _⟩ := applyModified (touch c j) j i (m :: ms)
      · rfl
      · dsimp only
        obtain ⟨c3, ok3⟩ := applyRemovals c2 j removed
        cases ok3 <;> rfl

end Split

end Datacake.C01c
