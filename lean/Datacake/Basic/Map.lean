/-
Finite maps `Nat ↦ Nat` as association lists (models of `BTreeMap` / `HashMap`).

`get` returns the first binding, `set` conses in front (after erasing, so keys stay unique in
practice), `erase` removes every binding of the key.  What `get` reads after `set` / `erase` holds
*unconditionally*: no well-formedness invariant is ever needed, and every theorem of the
development is stated through `get` (observationally), so iteration order never matters.

No imports: the definitions are linked into `dcdriver`.
-/
namespace Datacake

abbrev Map := List (Nat × Nat)

namespace Map

def get (m : Map) (k : Nat) : Option Nat :=
  match m with
  | [] => none
  | (k', v) :: rest => if k' = k then some v else get rest k

def erase (m : Map) (k : Nat) : Map :=
  match m with
  | [] => []
  | (k', v) :: rest => if k' = k then erase rest k else (k', v) :: erase rest k

def set (m : Map) (k v : Nat) : Map := (k, v) :: erase m k

/-- The bindings of the map, each key once (first occurrence wins, as in `get`).  Structural
recursion on a fuel argument, so that the kernel can evaluate it (`decide` in witnesses). -/
def bindingsAux : Nat → Map → List (Nat × Nat)
  | 0, _ => []
  | _ + 1, [] => []
  | f + 1, (k, v) :: rest => (k, v) :: bindingsAux f (erase rest k)

def bindings (m : Map) : List (Nat × Nat) := bindingsAux m.length m

@[simp] theorem get_nil (k : Nat) : get [] k = none := rfl

theorem get_cons (k' v : Nat) (rest : Map) (k : Nat) :
    get ((k', v) :: rest) k = if k' = k then some v else get rest k := rfl

theorem get_erase (m : Map) (k k' : Nat) :
    get (erase m k) k' = if k' = k then none else get m k' := by
  induction m with
  | nil => simp [erase]
  | cons x xs ih => grind [erase, get_cons]

theorem get_set (m : Map) (k v k' : Nat) :
    get (set m k v) k' = if k' = k then some v else get m k' := by
  rw [set, get_cons, get_erase]
  by_cases h : k = k' <;> simp [h, eq_comm]

theorem erase_length_le (m : Map) (k : Nat) : (erase m k).length ≤ m.length := by
  induction m with
  | nil => simp [erase]
  | cons x xs ih =>
    obtain ⟨a, b⟩ := x
    unfold erase
    split
    · exact Nat.le_succ_of_le ih
    · exact Nat.succ_le_succ ih

theorem bindingsAux_spec : ∀ (f : Nat) (m : Map), m.length ≤ f →
    (∀ k v, (k, v) ∈ bindingsAux f m ↔ get m k = some v) ∧ ((bindingsAux f m).map Prod.fst).Nodup := by
  intro f
  induction f with
  | zero =>
    intro m hm
    have : m = [] := List.eq_nil_of_length_eq_zero (Nat.le_zero.1 hm)
    subst this; simp [bindingsAux]
  | succ f ih =>
    intro m hm
    match m, hm with
    | [], _ => simp [bindingsAux]
    | (a, b) :: rest, hm =>
      obtain ⟨ihm, ihn⟩ := ih (erase rest a)
        (Nat.le_trans (erase_length_le rest a) (Nat.le_of_succ_le_succ hm))
      refine ⟨fun k v => ?_, ?_⟩
      · simp only [bindingsAux, List.mem_cons, get_cons]
        rw [ihm k v, get_erase]
        by_cases h : a = k
        · subst h; simp [eq_comm]
        · simp [h, Ne.symm h]
      · simp only [bindingsAux, List.map_cons, List.nodup_cons]
        -- the tail's bindings are read off `erase rest a`, which does not hold `a`
        refine ⟨fun hmem => ?_, ihn⟩
        obtain ⟨⟨k, v⟩, hkv, rfl⟩ := List.mem_map.1 hmem
        have := (ihm k v).1 hkv
        rw [get_erase, if_pos rfl] at this
        cases this

theorem mem_bindings {m : Map} {k v : Nat} : (k, v) ∈ bindings m ↔ get m k = some v :=
  (bindingsAux_spec m.length m (Nat.le_refl _)).1 k v

theorem bindings_nodup (m : Map) : ((bindings m).map Prod.fst).Nodup :=
  (bindingsAux_spec m.length m (Nat.le_refl _)).2

theorem filter_bindings_nodup {m : Map} {p : Nat × Nat → Bool} :
    (((bindings m).filter p).map Prod.fst).Nodup :=
  (bindings_nodup m).sublist (List.filter_sublist.map _)

end Map
end Datacake
