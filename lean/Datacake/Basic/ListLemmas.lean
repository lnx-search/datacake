/- Generic list lemmas: key-local folds over distinct keys (backbone of `merge`, the bulk handlers
and diff application), a fold that acts on one component, a fold that appends, distinct keys,
filters and sub-lists, insertion into a sorted list.  Invariants of folds and relations between two
folds are core's `List.foldlRecOn` and `List.foldl_rel`. -/
namespace Datacake

/-- A fold whose step touches only the projection at the item's key, over items with pairwise
distinct keys: per key, the result is the one step of that key's item (if any) applied to the
initial projection. -/
theorem foldl_keylocal {σ ι R : Type} (proj : σ → Nat → R) (key : ι → Nat)
    (f : σ → ι → σ) (g : ι → R → R) (Inv : σ → Prop)
    (hinv : ∀ s i, Inv s → Inv (f s i))
    (hloc : ∀ s i k, Inv s → proj (f s i) k = if k = key i then g i (proj s k) else proj s k)
    (L : List ι) (hnd : (L.map key).Nodup) (s : σ) (hs : Inv s) (k : Nat) :
    Inv (L.foldl f s) ∧
    ((∀ i ∈ L, key i ≠ k) → proj (L.foldl f s) k = proj s k) ∧
    (∀ i ∈ L, key i = k → proj (L.foldl f s) k = g i (proj s k)) := by
  induction L generalizing s with
  | nil => exact ⟨hs, fun _ => rfl, fun i hi => by cases hi⟩
  | cons x xs ih =>
    simp only [List.map_cons, List.nodup_cons] at hnd
    obtain ⟨ih0, ih1, ih2⟩ := ih hnd.2 (f s x) (hinv s x hs)
    simp only [List.foldl_cons]
    refine ⟨ih0, ?_, ?_⟩
    · intro hno
      rw [ih1 (fun i hi => hno i (List.mem_cons_of_mem _ hi)), hloc s x k hs,
        if_neg fun h => hno x List.mem_cons_self h.symm]
    · intro i hi hk
      -- distinct keys: the item of key `k` is the head and the tail leaves `k` alone, or the other way round
      rcases List.mem_cons.1 hi with rfl | hi
      · rw [ih1 fun j hj hjk => hnd.1 (List.mem_map.2 ⟨j, hj, hjk.trans hk.symm⟩), hloc s i k hs,
          if_pos hk.symm]
      · rw [ih2 i hi hk, hloc s x k hs, if_neg fun h => hnd.1 (List.mem_map.2 ⟨i, hi, hk.trans h⟩)]

theorem eq_of_nodup_map {α β : Type} (f : α → β) (l : List α) (h : (l.map f).Nodup) {a b : α}
    (ha : a ∈ l) (hb : b ∈ l) (e : f a = f b) : a = b := by
  have hp : l.Pairwise (fun a b => f a = f b → a = b) :=
    (List.pairwise_map.1 h).imp (fun hne e => absurd e hne)
  exact List.Pairwise.forall_of_forall_of_flip (fun _ _ _ => rfl) hp
    (hp.imp (fun h e => (h e.symm).symm)) ha hb e

theorem foldl_at {σ ρ β : Type} (proj : σ → Nat → ρ) {f : σ → β → σ} {k : Nat} (g : ρ → β → ρ)
    (hf : ∀ s d k', proj (f s d) k' = if k' = k then g (proj s k) d else proj s k') (l : List β) (s : σ) (k' : Nat) :
    proj (l.foldl f s) k' = if k' = k then l.foldl g (proj s k) else proj s k' := by
  induction l generalizing s with
  | nil => split <;> simp [*]
  | cons d l ih => rw [List.foldl_cons, ih, hf, hf, if_pos rfl]; split <;> rfl

theorem foldl_appends {β γ δ : Type} (f : β → γ → β) (obs : β → List δ) (c : γ → List δ)
    (q : List γ) (b : β) (h : ∀ b x, obs (f b x) = obs b ++ c x) :
    obs (q.foldl f b) = obs b ++ q.flatMap c := by
  induction q generalizing b with
  | nil => exact (List.append_nil _).symm
  | cons x q ih => rw [List.foldl_cons, ih, h, List.flatMap_cons, List.append_assoc]

theorem length_filter_ne {α : Type} [DecidableEq α] (l : List α) (a : α) (h : l.Nodup) :
    (l.filter (· ≠ a)).length = if a ∈ l then l.length - 1 else l.length := by
  rw [← List.length_erase, h.erase_eq_filter]
  congr 2
  funext x
  simp [bne, Bool.beq_eq_decide_eq]

theorem half_le_length_filter_ne {α : Type} [DecidableEq α] (l : List α) (a : α) (h : l.Nodup) :
    l.length / 2 ≤ (l.filter (· ≠ a)).length := by
  rw [length_filter_ne l a h]
  split
  · exact Nat.le_sub_one_of_lt (Nat.div_lt_self (List.length_pos_of_mem ‹_›) (by decide))
  · exact Nat.div_le_self _ _

theorem sublist_flatten_map {α β : Type} (l : List α) (g g' : α → List β) (h : ∀ p, (g p).Sublist (g' p)) :
    ((l.map g).flatten).Sublist ((l.map g').flatten) := by
  induction l with
  | nil => exact List.Sublist.refl _
  | cons p ps ih => exact List.Sublist.append (h p) ih

/-! Insertion into a sorted list (`sort_by_key`, `BTreeSet` order).  The model has several such
functions; all are the same up to the test that decides where to insert, so what holds of any of
them is proved from the two defining equations. -/

section
variable {α : Type} (p : α → α → Prop) [∀ x y, Decidable (p x y)] (ins : α → List α → List α)
  (hnil : ∀ x, ins x [] = [x])
  (hcons : ∀ x y ys, ins x (y :: ys) = if p x y then x :: y :: ys else y :: ins x ys)
include hnil hcons

theorem ins_perm (x : α) (l : List α) : (ins x l).Perm (x :: l) := by
  induction l with
  | nil => rw [hnil]
  | cons y ys ih =>
    rw [hcons]
    split
    · exact List.Perm.refl _
    · exact (List.Perm.cons y ih).trans (List.Perm.swap x y ys)

theorem insSort_perm (l : List α) : (l.foldr ins []).Perm l := by
  induction l with
  | nil => exact List.Perm.refl _
  | cons x xs ih => exact (ins_perm p ins hnil hcons x _).trans (List.Perm.cons x ih)

end

section
variable {α : Type} (key : α → Nat) (ins : α → List α → List α)
  (hnil : ∀ x, ins x [] = [x])
  (hcons : ∀ x y ys, ins x (y :: ys) = if key x < key y then x :: y :: ys else y :: ins x ys)
include hnil hcons

theorem ins_sorted (x : α) (l : List α) (h : l.Pairwise (fun a b => key a ≤ key b)) :
    (ins x l).Pairwise (fun a b => key a ≤ key b) := by
  induction l with
  | nil => rw [hnil]; exact List.pairwise_singleton _ _
  | cons y ys ih =>
    rw [hcons]
    have hy : ∀ z ∈ ys, key y ≤ key z := fun _ => List.rel_of_pairwise_cons h
    split
    next hlt =>
      exact List.pairwise_cons.2 ⟨List.forall_mem_cons.2
        ⟨Nat.le_of_lt hlt, fun z hz => Nat.le_trans (Nat.le_of_lt hlt) (hy z hz)⟩, h⟩
    next hge =>
      have hxy : ∀ z ∈ x :: ys, key y ≤ key z := List.forall_mem_cons.2 ⟨Nat.le_of_not_lt hge, hy⟩
      exact List.pairwise_cons.2 ⟨fun z hz => hxy z
        ((ins_perm (key · < key ·) ins hnil hcons x ys).mem_iff.1 hz), ih h.of_cons⟩

theorem insSort_sorted (l : List α) : (l.foldr ins []).Pairwise (fun a b => key a ≤ key b) :=
  List.foldrRecOn l ins List.Pairwise.nil fun acc h x _ => ins_sorted key ins hnil hcons x acc h

end

theorem filter_contains_of_sublist {α : Type} (f : α → Nat) {w l : List α} (hs : w.Sublist l)
    (hnd : (l.map f).Nodup) : l.filter (fun x => (w.map f).contains (f x)) = w := by
  induction hs with
  | slnil => rfl
  | @cons w l a hs ih =>
    rw [List.map_cons, List.nodup_cons] at hnd
    have : (w.map f).contains (f a) = false := by
      rw [List.contains_eq_mem, decide_eq_false_iff_not]
      exact fun hm => hnd.1 ((hs.map f).subset hm)
    rw [List.filter_cons, this]
    exact ih hnd.2
  | @cons_cons w l a hs ih =>
    rw [List.map_cons, List.nodup_cons] at hnd
    -- no other element of `l` has the key of `a`: on `l`, asking for it as well changes nothing
    rw [List.filter_cons_of_pos (by simp)]
    congr 1
    refine (List.filter_congr fun x hx => ?_).trans (ih hnd.2)
    have : (f x == f a) = false := beq_false_of_ne fun e => hnd.1 (e ▸ List.mem_map_of_mem hx)
    rw [List.map_cons, List.contains_cons, this, Bool.false_or]

theorem filter_false {α : Type} (l : List α) : l.filter (fun _ => false) = [] :=
  List.filter_eq_nil_iff.2 (by simp)

theorem heads_tails_perm {α : Type} (its : List (List α)) :
    (its.filterMap List.head? ++ (its.map List.tail).flatten).Perm its.flatten := by
  induction its with
  | nil => exact List.Perm.refl _
  | cons l ls ih =>
    cases l with
    | nil => exact ih
    | cons x xs =>
      -- x :: (heads ++ (xs ++ tails))  ~  x :: (xs ++ (heads ++ tails))
      exact ((List.perm_append_comm_assoc _ xs _).trans (ih.append_left xs)).cons x

end Datacake
