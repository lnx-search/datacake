/- The cut-off `forgive` (`compute_safe_last_stamp`) in terms of the timestamp layout. -/
import Datacake.Lemmas.Timestamp
import Datacake.Model.Orswot

namespace Datacake.Ts
open Datacake.OrSwot

theorem forgive_eq (F t : Nat) :
    forgive F t = pack (dts t - F) (if dts t < F then 0 else counter t) (node t) := by
  unfold forgive
  split
  next h => rw [Nat.sub_eq_zero_of_le (Nat.le_of_lt h)]
  next => rfl

/-- The cut-off of a bare node id (the default `pack 0 0 n` of a source that saw nothing). -/
theorem forgive_of_lt (F n : Nat) (hn : n < 256) : forgive F n = n := by
  obtain ⟨e1, e2, e3, _⟩ := spec_of_lt n hn
  rw [forgive_eq, e1, e2, e3, Nat.zero_sub, ite_self, pack_zero]

/-- Nothing is asked of `m`: `hclose` puts the time of its cut-off in range.  `hF`: the packed time
has 4 ms resolution (`dts_mod4`), so `dts m - F` is a time the layout can hold only for `F` a multiple
of 4 ms; `FORGIVENESS_PERIOD` is one.  This is where the `F % 4 = 0` of every theorem is used. -/
theorem not_lt_forgive (F t m : Nat) (hF : F % 4 = 0) (ht1 : t < U64) (ht2 : fractional t < 250)
    (hnode : node m = node t) (hclose : dts m < dts t + F) : ¬ t < forgive F m := by
  unfold forgive
  split
  next => rw [pack_zero, hnode]; exact Nat.not_lt.2 (node_le t)
  next h =>
    have hs : durSecs (dts m - F) ≤ TIMESTAMP_MAX :=
      Nat.le_trans (Nat.div_le_div_right (Nat.sub_le_of_le_add (Nat.le_of_lt hclose)))
        (durSecs_dts_le t ht1 ht2)
    have e := (pack_spec _ (counter m) (node m) hs (counter_lt m) (node_lt m)
      (Nat.sub_mod_eq_zero_of_mod_eq ((dts_mod4 m).trans hF.symm))).1
    exact Nat.lt_asymm (lt_of_time _ t ht2
      (.inl (by rw [e]; exact Nat.sub_lt_right_of_lt_add (Nat.le_of_not_lt h) hclose)))

end Datacake.Ts

namespace Datacake.OrSwot
open Datacake.Ts

/-- A valid timestamp (what clocks issue and `HLCTimestamp::new` builds): a `u64` with
`fractional < 250`. -/
def ValidStamp (t : Nat) : Prop := t < 18446744073709551616 ∧ fractional t < 250

/-! `repack`, `forgive_le`, `not_lt_forgive` with the bounds spelt as in `ValidStamp`: the statements
the property files and DESIGN.md cite. -/

theorem repack (t : Nat) (h1 : t < 18446744073709551616) (h2 : fractional t < 250) :
    pack (dts t) (counter t) (node t) = t :=
  Ts.repack t h1 h2

theorem forgive_le (F t : Nat) (h1 : t < 18446744073709551616) (h2 : fractional t < 250) :
    forgive F t ≤ t := by
  have h := pack_le_pack (k := if dts t < F then 0 else counter t) (k' := counter t) (node t)
    (Nat.sub_le (dts t) F)
    (durSecs_dts_le t h1 h2) (by split; exact Nat.zero_le _; exact Nat.le_refl _)
  rwa [← forgive_eq, repack t h1 h2] at h

/-- A stamp whose time is less than `F` behind `m`'s (same node) is not below `forgive F m`. -/
theorem not_lt_forgive (F t m : Nat) (hF : F % 4 = 0) (ht : ValidStamp t)
    (hm : m < 18446744073709551616) (hnode : node m = node t) (hclose : dts m < dts t + F) : ¬ t < forgive F m :=
  Ts.not_lt_forgive F t m hF ht.1 ht.2 hnode hclose

theorem not_lt_forgive_default (F t : Nat) : ¬ t < forgive F (pack 0 0 (node t)) := by
  rw [pack_zero, forgive_of_lt F _ (node_lt t)]
  exact Nat.not_lt.2 (node_le t)

end Datacake.OrSwot
