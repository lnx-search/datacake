/- The insertion sorts of `Model/Keyspace.lean` as instances of the generic one of `Basic/ListLemmas`. -/
import Datacake.Model.Keyspace
import Datacake.Basic.ListLemmas

namespace Datacake.Keyspace

theorem sortByTs_perm {l : List (Nat × Nat)} : (sortByTs l).Perm l :=
  insSort_perm (·.2 < ·.2) insertByTs (fun _ => rfl) (fun _ _ _ => rfl) l

theorem sortByTs_sorted {l : List (Nat × Nat)} : (sortByTs l).Pairwise (fun a b => a.2 ≤ b.2) :=
  insSort_sorted (·.2) insertByTs (fun _ => rfl) (fun _ _ _ => rfl) l

theorem loadSort_perm (l : List (Nat × Nat × Bool)) :
    (l.foldr (fun x acc => loadFromStorage.ins x acc) []).Perm l :=
  insSort_perm (·.2.1 < ·.2.1) loadFromStorage.ins (fun _ => rfl) (fun _ _ _ => rfl) l

end Datacake.Keyspace
