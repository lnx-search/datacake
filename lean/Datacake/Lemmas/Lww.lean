/- Records (`Spec/Lww.lean`) and their order: `join` and `omax` are the maximum with `none` as
bottom, `AtLeast r x` says `x ≤ r`; a record is determined by its lower bounds
(`eq_of_atLeast_iff`), and `lww A k` is the greatest `rank` among the operations of `A` on `k`
(`atLeast_lww`), from which every other fact about `lww` follows without induction. -/
import Datacake.Spec.Lww
import Datacake.Basic.ListLemmas

namespace Datacake.OrSwot
open Datacake.Lww

/-- Maximum of two records (`none` is the bottom). -/
def omax (a b : Option Nat) : Option Nat :=
  match a, b with
  | none, b => b
  | a, none => a
  | some x, some y => some (max x y)

def AtLeast (r : Option Nat) (x : Nat) : Prop := ∃ y, r = some y ∧ x ≤ y

/-- The record an operation writes (`rank o = opRec o.isDel o.ts` by definition). -/
def opRec (isDel : Bool) (t : Nat) : Nat := if isDel then deadRec t else liveRec t

theorem view_of_gets (s : OrSwot) (k : Nat) :
    view s k = match Map.get s.entries k with
      | some e => some (liveRec e)
      | none => match Map.get s.dead k with
        | some d => some (deadRec d)
        | none => none := rfl

theorem _root_.Datacake.Lww.Disj.entries_none {s : OrSwot} (hd : Disj s) {k d : Nat}
    (h : Map.get s.dead k = some d) : Map.get s.entries k = none :=
  (hd k).resolve_right fun e => nomatch e.symm.trans h

theorem newer_some (y x : Nat) : Newer (some y) x ↔ y < x :=
  ⟨fun h => h y rfl, fun h z hz => by cases hz; exact h⟩

theorem join_eq_ite (r : Option Nat) (x : Nat) : join r x = if Newer r x then some x else r := by
  cases r with
  | none => rfl
  | some y =>
    simp only [join, newer_some]
    split
    · rw [Nat.max_eq_right (Nat.le_of_lt ‹_›)]
    · rw [Nat.max_eq_left (Nat.le_of_not_lt ‹_›)]

theorem join_of_newer {r : Option Nat} {x : Nat} (h : Newer r x) : join r x = some x := by
  rw [join_eq_ite, if_pos h]

theorem join_cases {r : Option Nat} {x v : Nat} (h : join r x = some v) : r = some v ∨ v = x := by
  rw [join_eq_ite] at h
  split at h
  · exact Or.inr (Option.some.inj h).symm
  · exact Or.inl h

theorem newer_iff_join_ne (r : Option Nat) (x : Nat) : Newer r x ↔ join r x ≠ r := by
  rw [join_eq_ite]
  split
  · rename_i h
    exact ⟨fun _ e => Nat.lt_irrefl x (h x e.symm), fun _ => h⟩
  · rename_i h
    exact ⟨fun h' => absurd h' h, fun h' => absurd rfl h'⟩

theorem atLeast_some (y x : Nat) : AtLeast (some y) x ↔ x ≤ y :=
  ⟨fun ⟨_, h, hle⟩ => by cases h; exact hle, fun h => ⟨y, rfl, h⟩⟩

theorem not_atLeast_none (x : Nat) : ¬ AtLeast none x := fun ⟨_, h, _⟩ => by cases h

theorem not_newer_iff {r : Option Nat} {x : Nat} : ¬ Newer r x ↔ AtLeast r x := by
  cases r with
  | none => exact iff_of_false (fun h => h fun _ e => nomatch e) (not_atLeast_none x)
  | some y => rw [newer_some, atLeast_some, Nat.not_lt]

theorem join_eq_omax (r : Option Nat) (x : Nat) : join r x = omax r (some x) := by
  cases r <;> rfl

theorem atLeast_omax (p q : Option Nat) (x : Nat) :
    AtLeast (omax p q) x ↔ AtLeast p x ∨ AtLeast q x := by
  cases p <;> cases q <;>
    simp only [omax, atLeast_some, not_atLeast_none, false_or, or_false, Std.le_max]

theorem omax_none_right (r : Option Nat) : omax r none = r := by
  cases r <;> rfl

theorem omax_comm (x y : Option Nat) : omax x y = omax y x := by
  cases x <;> cases y <;> simp [omax, Nat.max_comm]

theorem AtLeast.mono {r : Option Nat} {x y : Nat} (h : AtLeast r y) (hxy : x ≤ y) : AtLeast r x :=
  let ⟨z, hz, hle⟩ := h
  ⟨z, hz, Nat.le_trans hxy hle⟩

theorem AtLeast.omax_right {b : Option Nat} {x : Nat} (h : AtLeast b x) (a : Option Nat) :
    AtLeast (omax a b) x :=
  (atLeast_omax a b x).2 (Or.inr h)

theorem eq_of_atLeast_iff {a b : Option Nat} (h : ∀ x, AtLeast a x ↔ AtLeast b x) : a = b := by
  cases a with
  | none =>
    cases b with
    | none => rfl
    | some y => exact absurd ((h y).2 ⟨y, rfl, Nat.le_refl y⟩) (not_atLeast_none y)
  | some x =>
    obtain ⟨y, rfl, hxy⟩ := (h x).1 ⟨x, rfl, Nat.le_refl x⟩
    exact congrArg some (Nat.le_antisymm hxy ((atLeast_some x y).1 ((h y).2 ⟨y, rfl, Nat.le_refl y⟩)))

end Datacake.OrSwot

namespace Datacake.C04
open Datacake.Lww

/-- LWW record of `k` starting from record `r` (`lww ops k = lwwFrom none ops k` by definition).
A definition of the C04 statements; it stands here, under its name, because its lemmas belong here. -/
def lwwFrom (r : Option Nat) (ops : List Op) (k : Nat) : Option Nat :=
  ops.foldl (fun acc o => if o.key = k then join acc (rank o) else acc) r

end Datacake.C04

namespace Datacake.OrSwot
open Datacake.Lww

theorem atLeast_lwwFrom (k x : Nat) (L : List Op) (r : Option Nat) :
    AtLeast (C04.lwwFrom r L k) x ↔ AtLeast r x ∨ ∃ o ∈ L, o.key = k ∧ x ≤ rank o := by
  induction L generalizing r with
  | nil => simp [C04.lwwFrom]
  | cons a L ih =>
    rw [C04.lwwFrom, List.foldl_cons]
    refine (ih _).trans ?_
    simp only [List.mem_cons, or_and_right, exists_or, exists_eq_left]
    by_cases ha : a.key = k
    · rw [if_pos ha, join_eq_omax, atLeast_omax, atLeast_some, or_assoc]
      simp only [ha, true_and]
    · simp only [ha, if_false, false_and, false_or]

theorem atLeast_lww {A : List Op} {k x : Nat} :
    AtLeast (lww A k) x ↔ ∃ o ∈ A, o.key = k ∧ x ≤ rank o :=
  (atLeast_lwwFrom k x A none).trans (or_iff_right (not_atLeast_none x))

theorem lwwFrom_not_mem {r : Option Nat} {ops : List Op} {k : Nat} (h : ∀ o ∈ ops, o.key ≠ k) :
    C04.lwwFrom r ops k = r :=
  eq_of_atLeast_iff fun x => (atLeast_lwwFrom k x ops r).trans (or_iff_left fun ⟨o, ho, hk, _⟩ => h o ho hk)

theorem lwwFrom_nodup {r : Option Nat} {ops : List Op} (hnd : (ops.map (·.key)).Nodup) {o : Op}
    (ho : o ∈ ops) : C04.lwwFrom r ops o.key = join r (rank o) :=
  eq_of_atLeast_iff fun x => by
    rw [atLeast_lwwFrom, join_eq_omax, atLeast_omax, atLeast_some]
    exact or_congr Iff.rfl ⟨fun ⟨o', ho', hk, hle⟩ => eq_of_nodup_map _ _ hnd ho' ho hk ▸ hle,
      fun hle => ⟨o, ho, rfl, hle⟩⟩

theorem lww_ge (A : List Op) (k : Nat) (o : Op) (ho : o ∈ A) (hk : o.key = k) :
    AtLeast (lww A k) (rank o) :=
  atLeast_lww.2 ⟨o, ho, hk, Nat.le_refl _⟩

theorem lww_mem {A : List Op} {k r : Nat} (h : lww A k = some r) :
    ∃ o ∈ A, o.key = k ∧ rank o = r := by
  obtain ⟨o, ho, hk, hle⟩ := atLeast_lww.1 ⟨r, h, Nat.le_refl r⟩
  exact ⟨o, ho, hk, Nat.le_antisymm ((atLeast_some _ _).1 (h ▸ lww_ge A k o ho hk)) hle⟩

theorem lww_append (A B : List Op) (k : Nat) : lww (A ++ B) k = omax (lww A k) (lww B k) :=
  eq_of_atLeast_iff fun x => by
    simp only [atLeast_omax, atLeast_lww, List.mem_append, or_and_right, exists_or]

theorem lww_cons (o : Op) (A : List Op) (k : Nat) :
    lww (o :: A) k = if k = o.key then join (lww A k) (rank o) else lww A k := by
  rw [← List.singleton_append, lww_append]
  show omax (if o.key = k then join none (rank o) else none) _ = _
  by_cases h : k = o.key
  · rw [if_pos h, if_pos h.symm, join_eq_omax (lww A k), omax_comm]; rfl
  · rw [if_neg h, if_neg (Ne.symm h)]; rfl

theorem lww_eq_of_subset {A H : List Op} {k : Nat} (hsub : ∀ o ∈ A, o ∈ H)
    (hcov : ∀ o ∈ H, (∀ o' ∈ H, o'.key = o.key → rank o' ≤ rank o) → o.key = k →
      AtLeast (lww A k) (rank o)) :
    lww A k = lww H k := by
  refine eq_of_atLeast_iff fun x => ⟨fun h => ?_, fun ⟨y, hy, hle⟩ => ?_⟩
  · obtain ⟨o, ho, h⟩ := atLeast_lww.1 h
    exact atLeast_lww.2 ⟨o, hsub o ho, h⟩
  · obtain ⟨w, hw, hk, rfl⟩ := lww_mem hy
    exact (hcov w hw (fun o' ho' hk' =>
      (atLeast_some _ _).1 (hy ▸ lww_ge H k o' ho' (hk'.trans hk))) hk).mono hle

theorem lww_ext {A A' : List Op} (h : ∀ o, o ∈ A ↔ o ∈ A') (k : Nat) : lww A k = lww A' k :=
  lww_eq_of_subset (fun o => (h o).1) fun o ho _ hk => lww_ge A k o ((h o).2 ho) hk

theorem liveRec_inj {a b : Nat} : liveRec a = liveRec b ↔ a = b :=
  ⟨fun h => Nat.eq_of_mul_eq_mul_left (by decide) (Nat.add_right_cancel h), congrArg liveRec⟩

theorem deadRec_inj {a b : Nat} : deadRec a = deadRec b ↔ a = b :=
  ⟨Nat.eq_of_mul_eq_mul_left (by decide), congrArg deadRec⟩

theorem deadRec_ne_liveRec {a b : Nat} : deadRec a ≠ liveRec b := by unfold liveRec deadRec; omega

theorem rank_inj (o o' : Op) (h : rank o = rank o') : o.ts = o'.ts ∧ o.isDel = o'.isDel := by
  unfold rank at h
  cases h1 : o.isDel <;> cases h2 : o'.isDel <;> simp only [h1, h2, Bool.false_eq_true, if_false, if_true] at h
  · exact ⟨liveRec_inj.1 h, rfl⟩
  · exact absurd h.symm deadRec_ne_liveRec
  · exact absurd h deadRec_ne_liveRec
  · exact ⟨deadRec_inj.1 h, rfl⟩

theorem op_eq_of_rank {o o' : Op} (hk : o.key = o'.key) (hr : rank o = rank o') : o = o' := by
  obtain ⟨h1, h2⟩ := rank_inj o o' hr
  cases o; cases o'; simp_all

theorem rank_bounds (o : Op) : 2 * o.ts ≤ rank o ∧ rank o ≤ 2 * o.ts + 1 := by
  unfold rank
  split
  · exact ⟨Nat.le_refl _, Nat.le_succ _⟩
  · exact ⟨Nat.le_succ _, Nat.le_refl _⟩

theorem deadRec_le_rank (o : Op) : deadRec o.ts ≤ rank o := (rank_bounds o).1

theorem ts_le_of_le_rank {t : Nat} {o : Op} (h : deadRec t ≤ rank o) : t ≤ o.ts := by
  have := (rank_bounds o).2
  unfold deadRec at h
  omega

theorem rank_lt_of_ts_lt {o o' : Op} (h : o.ts < o'.ts) : rank o < rank o' := by
  have := (rank_bounds o).2
  have := (rank_bounds o').1
  omega

theorem rank_le_of_ts_le {o o' : Op} (hle : o.ts ≤ o'.ts) (heq : o.ts = o'.ts → o = o') : rank o ≤ rank o' :=
  (Nat.lt_or_eq_of_le hle).elim (fun h => Nat.le_of_lt (rank_lt_of_ts_lt h)) fun h => heq h ▸ Nat.le_refl _

theorem deadRec_lt_liveRec {d t : Nat} : deadRec d < liveRec t ↔ ¬ t < d :=
  Nat.lt_succ_iff.trans ((Nat.mul_le_mul_left_iff (by decide)).trans Nat.not_lt.symm)

theorem liveRec_lt_liveRec {e t : Nat} : liveRec e < liveRec t ↔ e < t :=
  Nat.add_lt_add_iff_right.trans (Nat.mul_lt_mul_left (by decide))

theorem deadRec_lt_deadRec {d t : Nat} : deadRec d < deadRec t ↔ d < t := Nat.mul_lt_mul_left (by decide)

theorem liveRec_lt_deadRec {e t : Nat} : liveRec e < deadRec t ↔ ¬ t ≤ e :=
  ((Nat.mul_le_mul_left_iff (by decide)).trans Nat.not_le.symm : 2 * (e + 1) ≤ 2 * t ↔ ¬ t ≤ e)

end Datacake.OrSwot

namespace Datacake.C08b

/-- The live part of a record.  A definition of the C08b statements; here, under its name, for the
same reason as `C04.lwwFrom`. -/
def liveOf : Option Nat → Option Nat
  | some r => if r % 2 = 1 then some (r / 2) else none
  | none => none

end Datacake.C08b

namespace Datacake.OrSwot
open Datacake.Lww

theorem get_eq_liveOf_view (g : OrSwot) (k : Nat) : OrSwot.get g k = C08b.liveOf (view g k) := by
  unfold OrSwot.get view
  cases Map.get g.entries k with
  | some e =>
    show some e = if (2 * e + 1) % 2 = 1 then some ((2 * e + 1) / 2) else none
    rw [Nat.mul_add_mod, if_pos rfl, Nat.mul_add_div (by decide)]
    rfl
  | none =>
    cases Map.get g.dead k with
    | some d =>
      show none = if (2 * d) % 2 = 1 then some ((2 * d) / 2) else none
      rw [Nat.mul_mod_right, if_neg (by decide)]
    | none => rfl

theorem get_of_view (s s' : OrSwot) (k : Nat) (h : view s k = view s' k) :
    OrSwot.get s k = OrSwot.get s' k := by
  rw [get_eq_liveOf_view, get_eq_liveOf_view, h]

end Datacake.OrSwot
