/- Single operations on a replica: `applyOp` / `applyAll`, the LWW step refinement and the
version invariant; what `will_apply` admits (`willApply_iff`) and what a refusal of a fresh stamp
means (`held_of_refused`). -/
import Datacake.Lemmas.Orswot
import Datacake.Lemmas.OrswotVersions

namespace Datacake.OrSwot
open Datacake.Lww Datacake.Ts

structure SrcOp where
  src : Nat
  op : Op

/-- One `insert_with_source` / `delete_with_source` call. -/
def applyOp (F : Nat) (s : OrSwot) (o : SrcOp) : OrSwot × Bool :=
  if o.op.isDel then deleteWithSource F s o.src o.op.key o.op.ts
  else insertWithSource F s o.src o.op.key o.op.ts

def applyAll (F : Nat) (s : OrSwot) (ops : List SrcOp) : OrSwot :=
  ops.foldl (fun s o => (applyOp F s o).1) s

theorem applyOp_refused (F : Nat) (s : OrSwot) (o : SrcOp)
    (ha : isBefore s.safe o.op.ts = true) : applyOp F s o = (s, false) := by
  unfold applyOp insertWithSource deleteWithSource
  rw [tryUpdateMax_def, ha]
  split <;> rfl

theorem applyOp_accepted (F : Nat) (s : OrSwot) (o : SrcOp)
    (ha : isBefore s.safe o.op.ts = false) :
    applyOp F s o = coreOp o.op.isDel (bumped F s o.src o.op.ts) o.op.key o.op.ts := by
  unfold applyOp insertWithSource deleteWithSource coreOp
  rw [tryUpdateMax_def, ha]
  cases o.op.isDel <;> rfl

theorem applyOp_step (F : Nat) (s : OrSwot) (o : SrcOp) (hd : Disj s)
    (ha : isBefore s.safe o.op.ts = false) :
    (∀ k, view (applyOp F s o).1 k = if k = o.op.key then join (view s k) (rank o.op) else view s k) ∧
    Disj (applyOp F s o).1 ∧
    ((applyOp F s o).2 = true ↔ Newer (view s o.op.key) (rank o.op)) := by
  rw [applyOp_accepted F s o ha]
  exact view_coreOp o.op.isDel (bumped F s o.src o.op.ts) o.op.key o.op.ts hd

theorem applyOp_bumped (F : Nat) (s : OrSwot) (o : SrcOp) (hb : isBefore s.safe o.op.ts = false) :
    (applyOp F s o).1.maxs = (bumped F s o.src o.op.ts).maxs ∧
    (applyOp F s o).1.safe = (bumped F s o.src o.op.ts).safe := by
  rw [applyOp_accepted F s o hb]
  exact ⟨(coreOp_spec _ _ _ _).1, (coreOp_spec _ _ _ _).2.1⟩

theorem applyOp_maxs_other (F : Nat) (s : OrSwot) (o : SrcOp) (j : Nat) (hj : j ≠ o.src) :
    (applyOp F s o).1.maxs[j]? = s.maxs[j]? := by
  cases hb : isBefore s.safe o.op.ts with
  | true => rw [applyOp_refused F s o hb]
  | false =>
    rw [(applyOp_bumped F s o hb).1]
    exact (modifyNth_getElem? _ _ _ j).trans (if_neg hj)

theorem versInv_applyOp (F : Nat) (s : OrSwot) (o : SrcOp) (S S' : Nat → Prop) (h : VersInv F s S)
    (hS : ∀ x, S x → S' x) (hts : S' o.op.ts) : VersInv F (applyOp F s o).1 S' := by
  cases hb : isBefore s.safe o.op.ts with
  | true => rw [applyOp_refused F s o hb]; exact versInv_mono h hS
  | false =>
    obtain ⟨e1, e2⟩ := applyOp_bumped F s o hb
    exact versInv_congr e1 e2 (versInv_bumped F s o.src o.op.ts S S' h hS hts)

theorem willApply_iff (s : OrSwot) (k ts : Nat) :
    willApply s k ts = true ↔ isBefore s.safe ts = false ∧ Newer (view s k) (deadRec ts) := by
  unfold willApply view
  cases isBefore s.safe ts
  · cases Map.get s.entries k with
    | some e => simp [newer_some, liveRec_lt_deadRec]
    | none => cases Map.get s.dead k <;> simp [deadRec_lt_deadRec, Newer]
  · simp

theorem le_half {t r : Nat} (h : deadRec t ≤ r) : t ≤ r / 2 :=
  (Nat.le_div_iff_mul_le Nat.two_pos).2 (Nat.mul_comm _ _ ▸ h)

theorem newer_of_willApply (s : OrSwot) (o : Op) (h : willApply s o.key o.ts = true) :
    Newer (view s o.key) (rank o) :=
  fun y hy => Nat.lt_of_lt_of_le (((willApply_iff s o.key o.ts).1 h).2 y hy) (deadRec_le_rank o)

theorem applyOp_admitted (F : Nat) (s : OrSwot) (src : Nat) (o : Op) (hd : Disj s)
    (hw : willApply s o.key o.ts = true) :
    (∀ k, view (applyOp F s ⟨src, o⟩).1 k = if k = o.key then some (rank o) else view s k) ∧
    Disj (applyOp F s ⟨src, o⟩).1 := by
  obtain ⟨h1, h2, _⟩ := applyOp_step F s ⟨src, o⟩ hd ((willApply_iff s o.key o.ts).1 hw).1
  refine ⟨fun k => ?_, h2⟩
  rw [h1 k]
  split
  · rename_i e; subst e; exact join_of_newer (newer_of_willApply s o hw)
  · rfl

theorem held_of_refused (s : OrSwot) (k ts : Nat) (hfresh : isBefore s.safe ts = false)
    (hw : willApply s k ts = false) : AtLeast (view s k) (deadRec ts) :=
  not_newer_iff.1 fun hn => by rw [(willApply_iff s k ts).2 ⟨hfresh, hn⟩] at hw; cases hw

end Datacake.OrSwot

namespace Datacake.C04
open Datacake.Lww Datacake.OrSwot

/-- The side condition of the property: no operation is older than the forgiveness window relative
to what the replica has already seen from its origin, at the moment it is applied. -/
def Accepted (F : Nat) : OrSwot → List SrcOp → Prop
  | _, [] => True
  | s, o :: rest => isBefore s.safe o.op.ts = false ∧ Accepted F (applyOp F s o).1 rest

theorem disj_empty (n : Nat) : Disj (OrSwot.empty n) := fun _ => Or.inl rfl

theorem apply_ops_lww_from (F : Nat) (ops : List SrcOp) (s : OrSwot) (hd : Disj s)
    (ha : Accepted F s ops) :
    (∀ k, view (applyAll F s ops) k = lwwFrom (view s k) (ops.map (·.op)) k) ∧
    Disj (applyAll F s ops) := by
  induction ops generalizing s with
  | nil => exact ⟨fun _ => rfl, hd⟩
  | cons o rest ih =>
    obtain ⟨ha1, ha2⟩ := ha
    obtain ⟨h1, h2, _⟩ := applyOp_step F s o hd ha1
    obtain ⟨ih1, ih2⟩ := ih (applyOp F s o).1 h2 ha2
    refine ⟨?_, ih2⟩
    intro k
    simp only [applyAll, List.foldl_cons, List.map_cons, lwwFrom] at ih1 ⊢
    rw [ih1 k, h1 k]
    simp only [eq_comm]  -- `lwwFrom` tests `o.key = k`, the step `k = o.key`

end Datacake.C04
