/- Applying a computed difference: the replica learns every record of the peer (C05, C01). -/
import Datacake.Lemmas.ApplyRep
import Datacake.Props.C05

namespace Datacake.OrSwot
open Datacake.Lww Datacake.Map Datacake.Ts

/-- The difference as operations: modifications are inserts, removals are deletes. -/
def diffOps (a b : OrSwot) : List Op :=
  (diff a b).1.map (fun p => ⟨p.1, p.2, false⟩) ++ (diff a b).2.map (fun p => ⟨p.1, p.2, true⟩)

theorem mem_diffOps {a b : OrSwot} {o : Op} :
    o ∈ diffOps a b ↔ HasRec b o.key o.ts o.isDel ∧ C05.Lacks a o.key o.ts := by
  obtain ⟨k, t, del⟩ := o
  cases del <;>
    simp [diffOps, HasRec, (C05.diff_exact a b k t).1, (C05.diff_exact a b k t).2]

/-! However its items got accepted (the two alternatives of the precondition differ only there), an
exchange of `a` against `b` ends in a state whose records are the LWW records of what `a` had
applied together with the items of the difference.  What the property claims follows from that. -/

structure Exchanged (a b : OrSwot) (A : List Op) (s' : OrSwot) (A' : List Op) : Prop where
  view : ∀ k, view s' k = lww A' k
  mem : ∀ o, o ∈ A' ↔ o ∈ A ∨ o ∈ diffOps a b

/-- Afterwards the replica's record of every key is at least as new — by
stamp — as the peer's record of that key: either the record was an item, or the replica did not
lack it (its own record was as new, or it had applied and refused it: soundness). -/
theorem Exchanged.learns {F : Nat} {a b s' : OrSwot} {A B H A' : List Op}
    (ex : Exchanged a b A s' A') (ra : Rep F a A) (rb : Rep F b B) (hB : ∀ o ∈ B, o ∈ H)
    (snd : Sound a A H) (k t : Nat) (isDel : Bool) (hrec : HasRec b k t isDel) :
    AtLeast (Lww.view s' k) (deadRec t) := by
  rw [ex.view, atLeast_lww]
  by_cases hv : AtLeast (Lww.view a k) (deadRec t)
  · rw [ra.view, atLeast_lww] at hv
    obtain ⟨o, ho, h⟩ := hv
    exact ⟨o, (ex.mem o).2 (Or.inl ho), h⟩
  · refine ⟨⟨k, t, isDel⟩, (ex.mem _).2 ?_, rfl, deadRec_le_rank ⟨k, t, isDel⟩⟩
    cases hb : isBefore a.safe t with
    | true => exact Or.inl (snd _ (hB _ (op_of_rec rb isDel hrec)) hb)
    | false => exact Or.inr (mem_diffOps.2 ⟨hrec, C05.lacks_iff_view.2 ⟨hv, fun _ => hb⟩⟩)

theorem Exchanged.closes {F : Nat} {a b s' : OrSwot} {A B H A' : List Op}
    (ex : Exchanged a b A s' A') (ra : Rep F a A) (rb : Rep F b B) (hB : ∀ o ∈ B, o ∈ H)
    (snd : Sound a A H) : diff s' b = ([], []) := by
  -- a record of the peer is not lacked any more: its stamp has been learnt
  have key : ∀ k t isDel, ¬ (HasRec b k t isDel ∧ C05.Lacks s' k t) := fun k t isDel ⟨hrec, hl⟩ =>
    (C05.lacks_iff_view.1 hl).1 (ex.learns ra rb hB snd k t isDel hrec)
  exact Prod.ext
    (List.eq_nil_iff_forall_not_mem.2 fun p hp => key p.1 p.2 false ((C05.diff_exact _ b p.1 p.2).1.1 hp))
    (List.eq_nil_iff_forall_not_mem.2 fun p hp => key p.1 p.2 true ((C05.diff_exact _ b p.1 p.2).2.1 hp))

theorem exchanged_of_window (F : Nat) (hF : F % 4 = 0) (H : List Op) (hg : GoodHist H) (hw : WindowH F H)
    (a b : OrSwot) (A B : List Op) (ra : Rep F a A) (rb : Rep F b B)
    (hA : ∀ o ∈ A, o ∈ H) (hB : ∀ o ∈ B, o ∈ H)
    (order : List SrcOp) (hsub : ∀ o ∈ order, o.op ∈ diffOps a b)
    (hall : ∀ o ∈ diffOps a b, ∃ so ∈ order, so.op = o) :
    Exchanged a b A (applyAll F a order) ((order.map (·.op)).reverse ++ A) := by
  have hopsH : ∀ o ∈ order, o.op ∈ H := fun o ho =>
    hB _ (op_of_rec rb _ (mem_diffOps.1 (hsub o ho)).1)
  have rep' := (applyAll_rep F hF H hg hw order hopsH a A ra hA).1
  refine ⟨rep'.view, fun o => ?_⟩
  rw [List.mem_append, List.mem_reverse, List.mem_map, Or.comm]
  exact or_congr Iff.rfl ⟨fun ⟨so, hso, e⟩ => e ▸ hsub so hso, fun h => hall o h⟩

end Datacake.OrSwot
