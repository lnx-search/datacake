/- One node of the keyspace model: agreement of set and store (`Agree`), and the step every handler is
made of — an operation that `will_apply` admitted, applied to the set and written to the store
(`Node.write`, `onOne`). -/
import Datacake.Model.Keyspace
import Datacake.Lemmas.Assoc
import Datacake.Lemmas.Apply

namespace Datacake.Keyspace
open Datacake.Lww Datacake.OrSwot Datacake.Storage Datacake.Map

/-- What the store says about a document id: "document at `t`" / "tombstone at `t`" / nothing,
in the record encoding of `Spec/Lww.lean`. -/
def storeView (ks : Storage.Keyspace) (k : Nat) : Option Nat :=
  match aget ks.rows k with
  | some (ts, false) => some (liveRec ts)
  | some (ts, true) => some (deadRec ts)
  | none => none

/-- **Agree**: per document id the set and the store say the same, with the same stamp. -/
structure Agree (n : Node) : Prop where
  same : ∀ k, view n.set k = storeView n.store k
  disj : Disj n.set
  data : DataOk n.store

theorem storeView_rows (ks : Storage.Keyspace) (k : Nat) :
    storeView ks k = (aget ks.rows k).map (fun r => rank ⟨k, r.1, r.2⟩) := by
  unfold storeView
  rcases aget ks.rows k with _ | ⟨ts, _ | _⟩ <;> rfl

theorem view_live {s : OrSwot} {k t : Nat} : view s k = some (liveRec t) ↔ Map.get s.entries k = some t := by
  rw [view_of_gets]
  cases Map.get s.entries k <;> cases Map.get s.dead k <;>
    simp only [Option.some.injEq, reduceCtorEq, liveRec_inj, deadRec_ne_liveRec]

theorem storeView_live {ks : Storage.Keyspace} {k t : Nat} :
    storeView ks k = some (liveRec t) ↔ aget ks.rows k = some (t, false) := by
  unfold storeView
  rcases aget ks.rows k with _ | ⟨ts, _ | _⟩ <;>
    simp only [Option.some.injEq, reduceCtorEq, Prod.mk.injEq, and_true, and_false, liveRec_inj, deadRec_ne_liveRec]

/-- As `fetch_docs` reads the store: the tombstone flag is not looked at, bytes are there for live rows only. -/
theorem agree_live (n : Node) (ha : Agree n) (k t : Nat) :
    Map.get n.set.entries k = some t ↔ ∃ tomb, aget n.store.rows k = some (t, tomb) ∧ (aget n.store.data k).isSome := by
  rw [← view_live, ha.same k, storeView_live]
  constructor
  · exact fun h => ⟨false, h, (ha.data k).2 ⟨t, h⟩⟩
  · rintro ⟨tomb, h, hd⟩
    obtain ⟨ts, h'⟩ := (ha.data k).1 hd
    rw [h] at h' ⊢
    cases h'
    rfl

def storeOp (ks : Storage.Keyspace) (o : Op) (bytes : List Nat) : Storage.Keyspace :=
  if o.isDel then storeTomb ks o.key o.ts else storePut ks (o.key, o.ts, bytes)

theorem storeOp_rows (ks : Storage.Keyspace) (o : Op) (bytes : List Nat) :
    (storeOp ks o bytes).rows = aset ks.rows o.key (o.ts, o.isDel) := by
  unfold storeOp; cases o.isDel <;> rfl

theorem storeView_storeOp (ks : Storage.Keyspace) (o : Op) (bytes : List Nat) (k : Nat) :
    storeView (storeOp ks o bytes) k = if k = o.key then some (rank o) else storeView ks k := by
  rw [storeView_rows, storeView_rows, storeOp_rows, aget_aset]
  split
  · rename_i h; subst h; rfl
  · rfl

theorem dataOk_storeOp (ks : Storage.Keyspace) (o : Op) (bytes : List Nat) (h : DataOk ks) :
    DataOk (storeOp ks o bytes) := by
  unfold storeOp
  cases o.isDel
  · exact dataOk_put h
  · exact dataOk_tomb h

theorem storeView_put (ks : Storage.Keyspace) (d : Doc) (k : Nat) :
    storeView (storePut ks d) k = if k = d.1 then some (liveRec d.2.1) else storeView ks k :=
  storeView_storeOp ks ⟨d.1, d.2.1, false⟩ d.2.2 k

theorem storeView_tomb (ks : Storage.Keyspace) (id ts k : Nat) :
    storeView (storeTomb ks id ts) k = if k = id then some (deadRec ts) else storeView ks k :=
  storeView_storeOp ks ⟨id, ts, true⟩ [] k

section
variable (F : Nat) (n : Node) (src : Nat) (o : Op) (bytes : List Nat) (fail : Bool)

def Node.write (F : Nat) (n : Node) (src : Nat) (o : Op) (bytes : List Nat) : Node :=
  { set := (applyOp F n.set ⟨src, o⟩).1, store := storeOp n.store o bytes }

theorem agree_write (h : Agree n) (hw : willApply n.set o.key o.ts = true) :
    Agree (n.write F src o bytes) := by
  obtain ⟨hv, hdj⟩ := applyOp_admitted F n.set src o h.disj hw
  exact ⟨fun k => by rw [Node.write, hv k, storeView_storeOp, h.same k], hdj, dataOk_storeOp _ _ _ h.data⟩

theorem storeView_write : storeView (n.write F src o bytes).store o.key = some (rank o) := by
  rw [Node.write, storeView_storeOp, if_pos rfl]

def onOne (F : Nat) (n : Node) (src : Nat) (o : Op) (bytes : List Nat) (fail : Bool) : Node × Out :=
  if !willApply n.set o.key o.ts then (n, .ok)
  else if fail then (n, .err [])
  else (n.write F src o bytes, .ok)

theorem onOne_fst : (onOne F n src o bytes fail).1 =
    if willApply n.set o.key o.ts = true ∧ fail = false then n.write F src o bytes else n := by
  unfold onOne
  cases willApply n.set o.key o.ts <;> cases fail <;> rfl

theorem onOne_snd : (onOne F n src o bytes fail).2 =
    if willApply n.set o.key o.ts = true ∧ fail = true then .err [] else .ok := by
  unfold onOne
  cases willApply n.set o.key o.ts <;> cases fail <;> rfl

theorem agree_onOne (h : Agree n) : Agree (onOne F n src o bytes fail).1 := by
  rw [onOne_fst]
  split
  · rename_i hw; exact agree_write F n src o bytes h hw.1
  · exact h

end

theorem onSet_eq (F : Nat) (n : Node) (src : Nat) (d : Doc) (fail : Bool) :
    onSet F n src d fail = onOne F n src ⟨d.1, d.2.1, false⟩ d.2.2 fail := rfl

theorem onDel_eq (F : Nat) (n : Node) (src id ts : Nat) (fail : Bool) :
    onDel F n src id ts fail = onOne F n src ⟨id, ts, true⟩ [] fail := rfl

end Datacake.Keyspace
