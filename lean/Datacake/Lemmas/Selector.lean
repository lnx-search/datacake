/-
What the proofs about `select_n_nodes` (`Props/C15*.lean`, `Lemmas/SelectorSweep.lean`) rest on:
the layout of a data-centre map and its well-formedness (`layoutOf`, `allNodes`, `WF`), with `getDc`
and `setDc` read through them; the index a cycler reads (`norm`); what every loop does to the
selection (`Pulled`) and what the extra-node loop and the sweep do with one output of a cycler
(`offer`); one iteration of the loop over the data centres (`loopStep_cases`, `loopStep_spec`) and
its invariant (`LoopInv`, `loopStep_inv`).
-/
import Datacake.Model.Selector
import Datacake.Basic.ListLemmas

namespace Datacake.Selector

/-- `(data centre, its node list)`: the layout without the cursors. -/
def layoutOf (dcs : Dcs) : List (Nat × List Nat) := dcs.map (fun p => (p.1, p.2.nodes))

def allNodes (dcs : Dcs) : List Nat := (dcs.map (fun p => p.2.nodes)).flatten

/-- Well-formed layout: data-centre names are distinct and every address occurs once. -/
structure WF (dcs : Dcs) : Prop where
  ids : (dcs.map (·.1)).Nodup
  addrs : (allNodes dcs).Nodup

/-- The index `next` reads. -/
def norm (c : Cycler) : Nat := if c.cursor ≥ c.nodes.length then 0 else c.cursor

theorem next_eq (c : Cycler) : c.next = (c.nodes[norm c]?, ⟨norm c + 1, c.nodes⟩) := rfl

theorem norm_lt (c : Cycler) (h : c.nodes ≠ []) : norm c < c.nodes.length := by
  have := List.length_pos_iff.2 h
  unfold norm; split <;> omega

theorem next_mem (c : Cycler) (x : Nat) (h : c.next.1 = some x) : x ∈ c.nodes :=
  List.mem_of_getElem? h

theorem next_ne_none (c : Cycler) (h : c.nodes ≠ []) : c.next.1 ≠ none := by
  rw [next_eq, ne_eq, List.getElem?_eq_none_iff]
  exact Nat.not_le.2 (norm_lt c h)

theorem next_next_ne (c : Cycler) (hnd : c.nodes.Nodup) (hlen : 1 < c.nodes.length) :
    c.next.2.next.1 ≠ c.next.1 := by
  have hne : c.nodes ≠ [] := List.length_pos_iff.1 (Nat.lt_of_succ_lt hlen)
  have e : norm c.next.2 = if norm c + 1 ≥ c.nodes.length then 0 else norm c + 1 := rfl
  intro h
  have : norm c = norm c.next.2 := (List.getElem?_inj (norm_lt c hne) hnd).1 h.symm
  rw [e] at this
  split at this <;> omega

theorem getDc_mem (dcs : Dcs) (d : Nat) (c : Cycler) (h : getDc dcs d = some c) : (d, c) ∈ dcs := by
  induction dcs with
  | nil => cases h
  | cons p ps ih =>
    obtain ⟨d', c'⟩ := p
    unfold getDc at h
    split at h
    · cases h; exact ‹d' = d› ▸ List.mem_cons_self
    · exact List.mem_cons_of_mem _ (ih h)

theorem getDc_isSome (dcs : Dcs) (d : Nat) : (∃ c, getDc dcs d = some c) ↔ d ∈ dcs.map (·.1) := by
  induction dcs with
  | nil => simp [getDc]
  | cons p ps ih =>
    unfold getDc
    split
    · grind
    · rw [ih, List.map_cons, List.mem_cons]
      exact (or_iff_right fun e => ‹¬p.1 = d› e.symm).symm

theorem layoutOf_setDc (dcs : Dcs) (d : Nat) (c' : Cycler) (h : ∀ p ∈ dcs, p.1 = d → p.2.nodes = c'.nodes) :
    layoutOf (setDc dcs d c') = layoutOf dcs := by
  unfold layoutOf setDc
  rw [List.map_map]
  refine List.map_congr_left fun p hp => ?_
  simp only [Function.comp]
  split
  · rw [← ‹p.1 = d›, h p hp ‹_›]
  · rfl

theorem allNodes_of_layout (a b : Dcs) (h : layoutOf a = layoutOf b) : allNodes a = allNodes b := by
  simpa [allNodes, layoutOf, List.map_map, Function.comp_def] using congrArg (fun l => (l.map (·.2)).flatten) h

theorem ids_of_layout (a b : Dcs) (h : layoutOf a = layoutOf b) : a.map (·.1) = b.map (·.1) := by
  simpa [layoutOf, List.map_map, Function.comp_def] using congrArg (List.map (·.1)) h

theorem getDc_isSome_of_layout (a b : Dcs) (h : layoutOf a = layoutOf b) (d : Nat) :
    (∃ c, getDc a d = some c) ↔ ∃ c, getDc b d = some c := by
  rw [getDc_isSome, getDc_isSome, ids_of_layout a b h]

theorem getDc_of_layout (a b : Dcs) (h : layoutOf a = layoutOf b) (hids : (a.map (·.1)).Nodup) (d : Nat)
    (c : Cycler) (hg : getDc a d = some c) : ∃ c', getDc b d = some c' ∧ c'.nodes = c.nodes := by
  obtain ⟨c', hc'⟩ := (getDc_isSome_of_layout a b h d).1 ⟨c, hg⟩
  have hm : (d, c'.nodes) ∈ layoutOf a := h ▸ List.mem_map.2 ⟨(d, c'), getDc_mem b d c' hc', rfl⟩
  obtain ⟨p, hp, e⟩ := List.mem_map.1 hm
  rw [Prod.mk.injEq] at e
  exact ⟨c', hc', by rw [← e.2, eq_of_nodup_map (·.1) a hids hp (getDc_mem a d c hg) e.1]⟩

theorem disjoint_dcs (dcs : Dcs) (wf : WF dcs) (d d' : Nat) (c c' : Cycler) (x : Nat)
    (h : getDc dcs d = some c) (h' : getDc dcs d' = some c') (hx : x ∈ c.nodes) (hx' : x ∈ c'.nodes) :
    d = d' := by
  have hp := wf.addrs
  unfold allNodes List.Nodup at hp
  rw [List.pairwise_flatten, List.pairwise_map] at hp
  -- entries at different places share no node, so two entries that hold `x` are one entry
  exact List.Pairwise.forall_of_forall_of_flip
    (R := fun p q : Nat × Cycler => x ∈ p.2.nodes → x ∈ q.2.nodes → p.1 = q.1) (fun _ _ _ _ => rfl)
    (hp.2.imp fun hd hx hy => absurd rfl (hd x hx x hy)) (hp.2.imp fun hd hy hx => absurd rfl (hd x hx x hy))
    (getDc_mem dcs d c h) (getDc_mem dcs d' c' h') hx hx'

theorem sublist_allNodes (dcs : Dcs) (p : Nat × Cycler) (hp : p ∈ dcs) : p.2.nodes.Sublist (allNodes dcs) :=
  List.sublist_flatten_of_mem (List.mem_map.2 ⟨p, hp, rfl⟩)

theorem nodup_of_mem (dcs : Dcs) (wf : WF dcs) (p : Nat × Cycler) (hp : p ∈ dcs) : p.2.nodes.Nodup :=
  (sublist_allNodes dcs p hp).nodup wf.addrs

/-- What every loop of `select_n_nodes` does to the selection: `sel'` extends `sel` by nodes of
`nodes` other than the local one, without repeating a node. -/
structure Pulled (local_ : Nat) (nodes sel sel' : List Nat) : Prop where
  subset : ∀ x ∈ sel, x ∈ sel'
  mem : ∀ x ∈ sel', x ∈ sel ∨ x ∈ nodes ∧ x ≠ local_
  nodup : sel.Nodup → sel'.Nodup
  length_le : sel.length ≤ sel'.length

namespace Pulled
variable {local_ : Nat} {nodes nodes' sel sel' sel'' : List Nat}

theorem refl : Pulled local_ nodes sel sel := ⟨fun _ h => h, fun _ h => .inl h, id, Nat.le_refl _⟩

theorem single {x : Nat} (hx : x ∈ nodes) (hl : x ≠ local_) (hs : x ∉ sel) : Pulled local_ nodes sel (sel ++ [x]) :=
  ⟨fun _ h => List.mem_append_left _ h,
    fun _ hy => (List.mem_append.1 hy).imp_right fun e => by rw [List.mem_singleton.1 e]; exact ⟨hx, hl⟩,
    fun hn => List.nodup_append.2 ⟨hn, List.pairwise_singleton _ x, fun _ ha _ hb e => hs (List.mem_singleton.1 hb ▸ e ▸ ha)⟩,
    by simp⟩

theorem trans (h1 : Pulled local_ nodes sel sel') (h2 : Pulled local_ nodes sel' sel'') :
    Pulled local_ nodes sel sel'' :=
  ⟨fun x h => h2.subset x (h1.subset x h), fun x h => (h2.mem x h).elim (h1.mem x) .inr,
    fun hn => h2.nodup (h1.nodup hn), Nat.le_trans h1.length_le h2.length_le⟩

theorem mono (hsub : ∀ x ∈ nodes, x ∈ nodes') (h : Pulled local_ nodes sel sel') : Pulled local_ nodes' sel sel' :=
  ⟨h.subset, fun x hx => (h.mem x hx).imp_right fun h => ⟨hsub x h.1, h.2⟩, h.nodup, h.length_le⟩

theorem not_mem (h : Pulled local_ nodes sel sel') (hl : local_ ∉ sel) : local_ ∉ sel' :=
  fun hm => (h.mem _ hm).elim hl fun h => h.2 rfl

end Pulled

/-- What the extra-node loop and the fallback sweep do with an output of the cycler: the node is
taken unless it is the local one or selected already. -/
def offer (local_ : Nat) (sel : List Nat) : Option Nat → List Nat
  | some node => if node = local_ ∨ sel.contains node then sel else sel ++ [node]
  | none => sel

theorem offer_pulled {local_ : Nat} {nodes sel : List Nat} {o : Option Nat} (h : ∀ x, o = some x → x ∈ nodes) :
    Pulled local_ nodes sel (offer local_ sel o) := by
  cases o with
  | none => exact .refl
  | some x =>
    rw [offer]
    split
    · exact .refl
    · rename_i hnew
      rw [not_or, Bool.not_eq_true, List.contains_eq_mem, decide_eq_false_iff_not] at hnew
      exact .single (h x rfl) hnew.1 hnew.2

theorem mem_offer {local_ x : Nat} (sel : List Nat) (hx : x ≠ local_) : x ∈ offer local_ sel (some x) := by
  rw [offer]
  split
  next h => simpa using h.resolve_left hx
  · exact List.mem_append_right _ List.mem_cons_self

theorem length_offer_le (local_ : Nat) (sel : List Nat) (o : Option Nat) :
    (offer local_ sel o).length ≤ sel.length + 1 := by
  cases o with
  | none => exact Nat.le_succ _
  | some x => rw [offer]; split <;> simp

/-- One round of the extra-node loop; the count of extra nodes goes down by one if the node was taken. -/
theorem extraLoop_succ (local_ k : Nat) (c : Cycler) (sel : List Nat) (extra : Nat) :
    extraLoop local_ (k + 1) c sel extra = extraLoop local_ k c.next.2 (offer local_ sel c.next.1)
      (extra + sel.length - (offer local_ sel c.next.1).length) := by
  conv => lhs; unfold extraLoop
  rcases c.next with ⟨_ | node, c'⟩
  · exact (congrArg _ (Nat.add_sub_cancel ..)).symm
  · simp only [offer]
    split
    · rw [Nat.add_sub_cancel]
    · rw [List.length_append, List.length_singleton, Nat.add_comm extra, Nat.add_sub_add_left]

theorem extra_after_offer {k extra s o : Nat} (h : k + 1 ≤ extra) (ho : o ≤ s + 1) :
    k ≤ extra + s - o ∧ o + (extra + s - o) = s + extra := by grind

theorem extraLoop_spec (local_ k : Nat) : ∀ (c : Cycler) (sel : List Nat) (extra : Nat),
    (extraLoop local_ k c sel extra).1.nodes = c.nodes ∧
    Pulled local_ c.nodes sel (extraLoop local_ k c sel extra).2.1 ∧
    (k ≤ extra → (extraLoop local_ k c sel extra).2.1.length + (extraLoop local_ k c sel extra).2.2
      = sel.length + extra) := by
  induction k with
  | zero => exact fun _ _ _ => ⟨rfl, .refl, fun _ => rfl⟩
  | succ k ih =>
    intro c sel extra
    rw [extraLoop_succ]
    obtain ⟨h1, h2, h3⟩ := ih c.next.2 (offer local_ sel c.next.1) (extra + sel.length - (offer local_ sel c.next.1).length)
    refine ⟨h1, (offer_pulled (next_mem c)).trans h2, fun h => ?_⟩
    obtain ⟨a1, a2⟩ := extra_after_offer h (length_offer_le local_ sel c.next.1)
    rw [h3 a1, a2]

/-- `loopStep` once its first node `nd` is taken from the data centre's cycler. -/
def afterPick (local_ : Nat) (st : LoopSt) (d nd : Nat) (c2 : Cycler) : LoopSt :=
  if st.extra = 0 then { st with dcs := setDc st.dcs d c2, selected := st.selected ++ [nd] }
  else if st.dcCount = 0 then { st with panicked := true }
  else
    let r := extraLoop local_ (st.extra / max (st.dcCount - 1) 1) c2 (st.selected ++ [nd]) st.extra
    { st with dcs := setDc st.dcs d r.1, selected := r.2.1, extra := r.2.2, dcCount := st.dcCount - 1 }

/-- An iteration either takes nothing (an empty cycler, or one that holds the local node only) or
takes a first node other than the local one - the cycler's next node, or the one after it when
that is the local node - and goes on with `afterPick`. -/
theorem loopStep_cases (local_ : Nat) (st : LoopSt) (d : Nat) (c : Cycler) (hp : st.panicked = false)
    (hc : getDc st.dcs d = some c) (hnd : c.nodes.Nodup) :
    loopStep local_ st d =
      { st with dcs := setDc st.dcs d c.next.2, extra := st.extra + 1, dcCount := st.dcCount - 1 } ∨
    ∃ nd c2, c2.nodes = c.nodes ∧ nd ∈ c.nodes ∧ nd ≠ local_ ∧
      loopStep local_ st d = afterPick local_ st d nd c2 := by
  unfold loopStep
  rw [if_neg (hp ▸ Bool.false_ne_true), hc]
  dsimp only [next_eq]
  cases h1 : c.nodes[norm c]? with
  | none => exact .inl rfl
  | some node =>
    by_cases hloc : node = local_
    · by_cases hlen : c.nodes.length ≤ 1
      · refine .inl ?_
        simp only [if_pos hloc, if_pos hlen]
      · have hne : c.nodes ≠ [] := List.ne_nil_of_length_pos (Nat.lt_of_succ_lt (Nat.not_le.1 hlen))
        cases h2 : c.nodes[norm (⟨norm c + 1, c.nodes⟩ : Cycler)]? with
        | none => exact absurd h2 (next_ne_none c.next.2 hne)
        | some n2 =>
          refine .inr ⟨n2, ⟨norm (⟨norm c + 1, c.nodes⟩ : Cycler) + 1, c.nodes⟩, rfl, List.mem_of_getElem? h2,
            fun e => next_next_ne c hnd (Nat.not_le.1 hlen) (h2.trans ((e.trans hloc.symm) ▸ h1.symm)), ?_⟩
          simp only [if_pos hloc, if_neg hlen, h2]
          rfl
    · refine .inr ⟨node, ⟨norm c + 1, c.nodes⟩, rfl, List.mem_of_getElem? h1, hloc, ?_⟩
      simp only [if_neg hloc]
      rfl

/-- What one `loopStep` at data centre `d` does when it does not panic: it advances `d`'s cycler, pulls
nodes of `d`, and accounts for one more of the wanted nodes (selected, or postponed as `extra`). -/
structure Stepped (local_ : Nat) (st : LoopSt) (d : Nat) (nodes : List Nat) (st' : LoopSt) : Prop where
  alive : st'.panicked = false
  dcs : ∃ c', c'.nodes = nodes ∧ st'.dcs = setDc st.dcs d c'
  pulled : Pulled local_ nodes st.selected st'.selected
  sum : st'.selected.length + st'.extra = st.selected.length + st.extra + 1
  count : st.dcCount - 1 ≤ st'.dcCount

theorem loopStep_spec (local_ : Nat) (st : LoopSt) (d : Nat) (c : Cycler) (hp : st.panicked = false)
    (hc : getDc st.dcs d = some c) (hnd : c.nodes.Nodup) (hnew : ∀ x ∈ c.nodes, x ∉ st.selected)
    (hcount : st.dcCount ≠ 0) : Stepped local_ st d c.nodes (loopStep local_ st d) := by
  rcases loopStep_cases local_ st d c hp hc hnd with e | ⟨nd, c2, hc2, hmem, hl, e⟩ <;> rw [e]
  · exact ⟨hp, ⟨c.next.2, rfl, rfl⟩, .refl, (Nat.add_assoc ..).symm, Nat.le_refl _⟩
  · have hs := Pulled.single hmem hl (hnew nd hmem)
    unfold afterPick
    -- `split` closes the branch `st.dcCount = 0` (the panic) with `hcount`
    split
    · exact ⟨hp, ⟨c2, hc2, rfl⟩, hs, by rw [List.length_append, List.length_singleton, Nat.add_right_comm], Nat.sub_le _ _⟩
    · obtain ⟨e1, e2, e3⟩ := extraLoop_spec local_ (st.extra / max (st.dcCount - 1) 1) c2 (st.selected ++ [nd]) st.extra
      exact ⟨hp, ⟨_, e1.trans hc2, rfl⟩, hs.trans (hc2 ▸ e2), by rw [e3 (Nat.div_le_self _ _), List.length_append, List.length_singleton, Nat.add_right_comm],
        Nat.le_refl _⟩

/-- Invariant of the loop over the selected data centres, for a call that wants `n` nodes from the
map `dcs0`.  `P` = data centres already processed, `ds` = those still to come: each of them will yield
one node or one more extra node to find, so selected + extra + `ds.length` stays `n` (`sum`), and
`dc_count` has not run below the number of iterations left (`count`: no underflow in `dc_count - 1`).
What is selected comes from `P` (`fromP`), so the nodes of a data centre in `ds` are still free. -/
structure LoopInv (local_ n : Nat) (dcs0 : Dcs) (st : LoopSt) (P ds : List Nat) : Prop where
  alive : st.panicked = false
  layout : layoutOf st.dcs = layoutOf dcs0
  noLocal : local_ ∉ st.selected
  nodup : st.selected.Nodup
  fromP : ∀ x ∈ st.selected, ∃ d ∈ P, ∃ c, getDc dcs0 d = some c ∧ x ∈ c.nodes
  dsNodup : ds.Nodup
  dsFresh : ∀ d ∈ ds, d ∉ P ∧ ∃ c, getDc dcs0 d = some c
  count : st.dcCount ≥ ds.length
  sum : st.selected.length + st.extra + ds.length = n

theorem loopStep_inv (local_ n : Nat) (dcs0 : Dcs) (wf : WF dcs0) (st : LoopSt) (P : List Nat)
    (d : Nat) (ds : List Nat) (inv : LoopInv local_ n dcs0 st P (d :: ds)) :
    LoopInv local_ n dcs0 (loopStep local_ st d) (d :: P) ds := by
  obtain ⟨halive, hlay, hnl, hnd, hfrom, hdsnd, hfresh, hcount, hsum⟩ := inv
  obtain ⟨hdP, c0, hc0⟩ := hfresh d List.mem_cons_self
  obtain ⟨c, hc, hcn⟩ := getDc_of_layout dcs0 st.dcs hlay.symm wf.ids d c0 hc0
  rw [List.nodup_cons] at hdsnd
  rw [List.length_cons] at hcount hsum
  -- a node of data centre `d` is not yet selected: what is selected comes from `P`
  have hnew : ∀ x ∈ c.nodes, x ∉ st.selected := by
    intro x hx hsel
    obtain ⟨d', hd', c', h1, h2⟩ := hfrom x hsel
    exact hdP (disjoint_dcs dcs0 wf d d' c0 c' x hc0 h1 (hcn ▸ hx) h2 ▸ hd')
  obtain ⟨s1, ⟨c', s2, s3⟩, s4, s5, s6⟩ := loopStep_spec local_ st d c halive hc
    (hcn ▸ nodup_of_mem dcs0 wf _ (getDc_mem dcs0 d c0 hc0)) hnew (Nat.ne_zero_of_lt hcount)
  refine ⟨s1, ?_, s4.not_mem hnl, s4.nodup hnd, ?_, hdsnd.2, ?_, Nat.le_trans (Nat.le_sub_one_of_lt hcount) s6,
    by rw [s5, Nat.add_assoc, Nat.add_comm 1]; exact hsum⟩
  · -- names are distinct: the entry named `d` is the one `getDc` found
    rw [s3, layoutOf_setDc st.dcs d c' fun p hp e => ?_, hlay]
    rw [eq_of_nodup_map (·.1) st.dcs (ids_of_layout _ _ hlay ▸ wf.ids) hp (getDc_mem _ d c hc) e, s2]
  · intro x hx
    rcases s4.mem x hx with h | h
    · obtain ⟨d', hd', r⟩ := hfrom x h
      exact ⟨d', List.mem_cons_of_mem _ hd', r⟩
    · exact ⟨d, List.mem_cons_self, c0, hc0, hcn ▸ h.1⟩
  · intro d' hd'
    obtain ⟨h1, h2⟩ := hfresh d' (List.mem_cons_of_mem _ hd')
    exact ⟨List.not_mem_cons_of_ne_of_not_mem (fun e => hdsnd.1 (e ▸ hd')) h1, h2⟩

theorem foldl_loopStep_inv (local_ n : Nat) (dcs0 : Dcs) (wf : WF dcs0) (ds : List Nat) (st : LoopSt) (P : List Nat)
    (h : LoopInv local_ n dcs0 st P ds) : ∃ P', LoopInv local_ n dcs0 (ds.foldl (loopStep local_) st) P' [] := by
  induction ds generalizing st P with
  | nil => exact ⟨P, h⟩
  | cons d ds ih => exact ih _ _ (loopStep_inv local_ n dcs0 wf st P d ds h)

end Datacake.Selector
