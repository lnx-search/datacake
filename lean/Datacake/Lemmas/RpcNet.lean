/-
Every run of the protocol model `RpcNet` satisfies the trace specification `Monitor.Spec`.
-/
import Datacake.Model.RpcNet

theorem Bool.or_right {a b : Bool} (h : b = true) : (a || b) = true := by rw [h, Bool.or_true]

namespace Datacake.RpcNet
open Datacake.Monitor

theorem sendTime_append (pre rest : List Ev) (id : Nat) :
    sendTime (pre ++ rest) id = (sendTime pre id).or (sendTime rest id) :=
  List.findSome?_append

theorem any_isSend (l : List Ev) (id : Nat) : l.any (isSend id) = (sendTime l id).isSome := by
  rw [sendTime, List.isSome_findSome?]
  congr; funext e
  cases e with
  | send i t => by_cases h : i = id <;> simp [isSend, h]
  | _ => rfl

theorem before_append (pre rest : List Ev) : before (pre ++ rest) pre.length = pre :=
  List.take_left

/-- The specification looks at the events seen so far through four tests only: the time `T` of the first send
of a request, and whether a send `S`, a handler begin `B`, a completion `D` of it is among them. -/
structure Inv (s : Net) (T : Nat → Option Nat) (S B D : Nat → Bool) : Prop where
  sent : ∀ id, Map.get s.sent id = T id
  done : ∀ id, D id = true → id ∈ s.done
  begun_sent : ∀ id, B id = true → S id = true
  inReq : ∀ id ∈ s.inReq, S id = true ∧ B id = false
  running : ∀ id ∈ s.running, B id = true
  inRep : ∀ id x, (id, x) ∈ s.inRep → x = expected id ∧ B id = true

abbrev InvAt (s : Net) (pre : List Ev) : Prop :=
  Inv s (sendTime pre) (fun id => pre.any (isSend id)) (fun id => pre.any (isBegin id)) (fun id => pre.any (isDone id))

/-- The new event comes first in each test, so that for an event of another kind `false || b` (and the `match`
on `none`) reduces and the clause is the old one. -/
theorem InvAt.snoc {s : Net} {pre : List Ev} {e : Ev}
    (h : Inv s (fun id => match sendTime [e] id with
          | none => sendTime pre id
          | some t => (sendTime pre id).or (some t))
        (fun id => isSend id e || pre.any (isSend id)) (fun id => isBegin id e || pre.any (isBegin id))
        (fun id => isDone id e || pre.any (isDone id))) : InvAt s (pre ++ [e]) := by
  have hany : ∀ p : Ev → Bool, (pre ++ [e]).any p = (p e || pre.any p) := fun p => by
    rw [List.any_append, List.any_cons, List.any_nil, Bool.or_false, Bool.or_comm]
  have ht : sendTime (pre ++ [e]) = fun id => match sendTime [e] id with
      | none => sendTime pre id
      | some t => (sendTime pre id).or (some t) := funext fun id => by
    rw [sendTime_append]
    cases sendTime [e] id with
    | none => exact Option.or_none
    | some t => rfl
  simp only [InvAt, hany, ht]
  exact h

theorem inv_init : InvAt init [] :=
  ⟨fun _ => rfl, fun _ => nofun, fun _ => nofun, fun _ => nofun, fun _ => nofun, fun _ _ => nofun⟩

theorem inv_done {s : Net} {pre : List Ev} {id t : Nat} {o : Outcome} {rep : List (Nat × Nat)} (hI : InvAt s pre)
    (hsub : ∀ x ∈ rep, x ∈ s.inRep) :
    InvAt { s with inRep := rep, done := id :: s.done } (pre ++ [.done id o t]) := by
  refine .snoc ⟨hI.sent, fun id' h => ?done, hI.begun_sent, hI.inReq, hI.running, fun id' x h => hI.inRep id' x (hsub _ h)⟩
  rcases Bool.or_eq_true_iff.1 h with h | h
  · exact beq_iff_eq.1 h ▸ List.mem_cons_self
  · exact List.mem_cons_of_mem _ (hI.done id' h)

theorem step_ok {tau slack : Nat} {s s' : Net} {pre : List Ev} {e : Ev} (rest : List Ev) (hI : InvAt s pre)
    (hx : exec tau slack s e = some s') :
    evOk (pre ++ e :: rest) tau slack pre.length e = true ∧ InvAt s' (pre ++ [e]) := by
  cases e with
  | send id t =>
    obtain ⟨hn, rfl⟩ := Option.ite_some_none_eq_some.1 hx
    have hfresh : pre.any (isSend id) = false := by rw [any_isSend, ← hI.sent, hn]; rfl
    refine ⟨rfl, .snoc ⟨fun id' => ?sent, hI.done, fun id' h => Bool.or_right (hI.begun_sent id' h),
      fun id' h => ?inReq, hI.running, hI.inRep⟩⟩
    case sent =>
      by_cases h : id = id'
      · subst h; rw [(hI.sent id).symm.trans hn]; simp [Map.get, sendTime]
      · simp [Map.get, sendTime, h, hI.sent]
    case inReq =>
      rcases List.mem_cons.1 h with rfl | h
      · exact ⟨Bool.or_eq_true_iff.2 (.inl (beq_self_eq_true _)),
          Bool.eq_false_iff.2 fun hb => Bool.false_ne_true (hfresh.symm.trans (hI.begun_sent _ hb))⟩
      · exact ⟨Bool.or_right (hI.inReq id' h).1, (hI.inReq id' h).2⟩
  | hbegin id t =>
    obtain ⟨hm, rfl⟩ := Option.ite_some_none_eq_some.1 hx
    obtain ⟨hs, hb⟩ := hI.inReq id hm
    refine ⟨by rw [evOk, before_append, hs, hb]; rfl, .snoc ⟨hI.sent, hI.done, fun id' h => ?begun_sent,
      fun id' h => ?inReq, fun id' h => ?running,
      fun id' x h => ⟨(hI.inRep id' x h).1, Bool.or_right (hI.inRep id' x h).2⟩⟩⟩
    case begun_sent =>
      rcases Bool.or_eq_true_iff.1 h with h | h
      · exact beq_iff_eq.1 h ▸ hs
      · exact hI.begun_sent id' h
    case inReq =>
      obtain ⟨h, hne⟩ := List.mem_filter.1 h
      rw [isBegin, beq_false_of_ne (Ne.symm (of_decide_eq_true hne))]
      exact hI.inReq id' h
    case running =>
      rcases List.mem_cons.1 h with rfl | h
      · exact Bool.or_eq_true_iff.2 (.inl (beq_self_eq_true _))
      · exact Bool.or_right (hI.running id' h)
  | hend id t =>
    obtain ⟨hm, rfl⟩ := Option.ite_some_none_eq_some.1 hx
    refine ⟨rfl, .snoc ⟨hI.sent, hI.done, hI.begun_sent, hI.inReq, fun id' h => hI.running id' (List.mem_filter.1 h).1,
      fun id' x h => ?inRep⟩⟩
    rcases List.mem_cons.1 h with h | h
    · cases h; exact ⟨rfl, hI.running id hm⟩
    · exact hI.inRep id' x h
  | done id o t =>
    cases hst : Map.get s.sent id with
    | none => simp [exec, hst] at hx
    | some st =>
      have hT : sendTime pre id = some st := (hI.sent id).symm.trans hst
      simp only [exec, hst, Option.ite_none_left_eq_some] at hx
      obtain ⟨hnd, hdl, hx⟩ := hx
      have hB : pre.any (isDone id) = false := Bool.eq_false_iff.2 fun hd => hnd (hI.done id hd)
      have hdl := eq_true_of_ne_false hdl
      simp only [evOk, doneOk, withinDeadline, before_append, any_isSend, sendTime_append, hT, hB]
      -- what is left of `evOk` is the clause of the outcome, and `deadlineOk tau slack st t` by computation
      cases o <;> dsimp only at hx ⊢
      · obtain ⟨hr, hx⟩ := Option.ite_none_right_eq_some.1 hx
        obtain ⟨rfl, hb⟩ := hI.inRep _ _ hr
        cases hx
        exact ⟨by rw [hb, decide_eq_true rfl]; exact hdl, inv_done hI fun x hx => (List.mem_filter.1 hx).1⟩
      · cases hx; exact ⟨hdl, inv_done hI fun x hx => hx⟩
      · obtain ⟨htau, hx⟩ := Option.ite_none_right_eq_some.1 hx
        cases hx
        exact ⟨by rw [decide_eq_true htau]; exact hdl, inv_done hI fun x hx => hx⟩
      · cases hx
      · cases hx

theorem run_spec_from (tau slack : Nat) (rest : List Ev) (s s' : Net) (pre : List Ev) (hI : InvAt s pre)
    (hr : run tau slack s rest = some s') (n : Nat) (e : Ev) (hn : rest[n]? = some e) :
    evOk (pre ++ rest) tau slack (pre.length + n) e = true := by
  induction rest generalizing s pre n with
  | nil => cases hn
  | cons e' es ih =>
    cases hx : exec tau slack s e' with
    | none => simp [run, hx] at hr
    | some s1 =>
      obtain ⟨hok, hI1⟩ := step_ok es hI hx
      cases n with
      | zero => cases hn; exact hok
      | succ n =>
        have := ih s1 (pre ++ [e']) hI1 (by simpa [run, hx] using hr) n hn
        simpa [Nat.add_assoc, Nat.add_comm 1 n] using this

theorem firstRefused_none_iff (tau slack : Nat) (tr : List Ev) (s : Net) (n : Nat) :
    firstRefused tau slack s tr n = none ↔ (run tau slack s tr).isSome = true := by
  induction tr generalizing s n with
  | nil => simp [firstRefused, run]
  | cons e es ih =>
    simp only [firstRefused, run]
    cases exec tau slack s e with
    | none => simp
    | some s1 => exact ih s1 (n + 1)

end Datacake.RpcNet
