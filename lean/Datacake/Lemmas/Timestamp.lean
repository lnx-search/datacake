/- The packed layout of `HLCTimestamp` (`pack` and the accessors are inverse on valid stamps; stamps compare as their
fields do), `duration_to_parts` / `parts_as_duration` at 4 ms resolution, and the exits of `send` / `recv` as tables
from which `Props/C09` and `Props/C11` read what an outcome means. -/
import Datacake.Model.Timestamp

namespace Datacake.Ts

theorem node_lt (t : Nat) : node t < 256 := Nat.mod_lt _ (by decide)
theorem counter_lt (t : Nat) : counter t < 65536 := Nat.mod_lt _ (by decide)
theorem fractional_lt (t : Nat) : fractional t < 256 := Nat.mod_lt _ (by decide)
theorem seconds_lt_iff (t : Nat) : seconds t < 4294967296 ↔ t < U64 := Nat.div_lt_iff_lt_mul (by decide)

/-! A stamp is a number in mixed radix: the accessors take the digits off from the low end (`t / 256 / 65536` for
`t >>> 24`); `horner_eq` is where the shifts 2^32 and 2^24 of the flat form come in. -/

theorem fractional_eq (t : Nat) : fractional t = t / 256 / 65536 % 256 := by
  rw [fractional, Nat.div_div_eq_div_mul]

theorem seconds_eq (t : Nat) : seconds t = t / 256 / 65536 / 256 := by
  rw [seconds, Nat.div_div_eq_div_mul, Nat.div_div_eq_div_mul]

theorem horner_eq (s f k n : Nat) :
    ((s * 256 + f) * 65536 + k) * 256 + n = s * 4294967296 + f * 16777216 + k * 256 + n := by
  grind

theorem digit {q b r : Nat} (h : r < b) : (q * b + r) / b = q ∧ (q * b + r) % b = r :=
  (Nat.div_mod_unique (by omega)).2 ⟨by rw [Nat.add_comm, Nat.mul_comm], h⟩

theorem decomp (t : Nat) :
    t = seconds t * 4294967296 + fractional t * 16777216 + counter t * 256 + node t := by
  simp only [← horner_eq, seconds_eq, fractional_eq, counter, node, Nat.div_add_mod']

theorem fields_of_sum {t s f k n : Nat} (h : t = s * 4294967296 + f * 16777216 + k * 256 + n)
    (hf : f < 256) (hk : k < 65536) (hn : n < 256) :
    seconds t = s ∧ fractional t = f ∧ counter t = k ∧ node t = n := by
  rw [seconds_eq, fractional_eq, counter, node, h, ← horner_eq, (digit hn).1, (digit hk).1]
  exact ⟨(digit hf).1, (digit hf).2, (digit hk).2, (digit hn).2⟩

theorem lt_iff_div_mod (a b m : Nat) :
    a < b ↔ a / m < b / m ∨ (a / m = b / m ∧ a % m < b % m) := by
  constructor
  · intro h
    rcases Nat.lt_or_eq_of_le (Nat.div_le_div_right (c := m) (Nat.le_of_lt h)) with hq | hq
    · exact .inl hq
    · refine .inr ⟨hq, ?_⟩
      rw [← Nat.div_add_mod a m, ← Nat.div_add_mod b m, hq] at h
      exact Nat.lt_of_add_lt_add_left h
  · rintro (h | ⟨hq, hr⟩)
    · exact Nat.lt_of_div_lt_div h
    · rw [← Nat.div_add_mod a m, ← Nat.div_add_mod b m, hq]
      exact Nat.add_lt_add_left hr _

/-- From the top: the seconds, then what is left below 2^32, then what is left below 2^24. -/
theorem lt_iff_lex (a b : Nat) :
    a < b ↔ seconds a < seconds b ∨ (seconds a = seconds b ∧ (fractional a < fractional b ∨
      (fractional a = fractional b ∧ (counter a < counter b ∨
        (counter a = counter b ∧ node a < node b))))) := by
  have e1 : ∀ t, t % 4294967296 / 16777216 = fractional t := fun t => Nat.mod_mul_right_div_self t 16777216 256
  have e2 : ∀ t, t % 4294967296 % 16777216 = t % 16777216 := fun t => Nat.mod_mod_of_dvd t ⟨256, rfl⟩
  have e3 : ∀ t, t % 16777216 / 256 = counter t := fun t => Nat.mod_mul_right_div_self t 256 65536
  have e4 : ∀ t, t % 16777216 % 256 = node t := fun t => Nat.mod_mod_of_dvd t ⟨65536, rfl⟩
  rw [lt_iff_div_mod a b 4294967296, lt_iff_div_mod (a % 4294967296) _ 16777216, e1, e1, e2, e2,
    lt_iff_div_mod (a % 16777216) _ 256, e3, e3, e4, e4]
  rfl

theorem node_le (t : Nat) : node t ≤ t := Nat.mod_le _ _

theorem durFrac_lt (ms : Nat) : durFrac ms < 250 := Nat.div_lt_of_lt_mul (Nat.mod_lt _ (by decide))

theorem parts_dur (ms : Nat) (h4 : ms % 4 = 0) : partsAsDuration (durSecs ms) (durFrac ms) = ms := by
  unfold partsAsDuration durSecs durFrac; grind

theorem parts_dur_le (ms : Nat) :
    partsAsDuration (durSecs ms) (durFrac ms) ≤ ms ∧ ms < partsAsDuration (durSecs ms) (durFrac ms) + 4 := by
  unfold partsAsDuration durSecs durFrac; omega

theorem dur_parts (s f : Nat) (hf : f < 250) :
    durSecs (partsAsDuration s f) = s ∧ durFrac (partsAsDuration s f) = f := by
  have h : f * 4 < 1000 := by omega
  rw [durSecs, durFrac, partsAsDuration, (digit h).1, (digit h).2, Nat.mul_div_cancel _ (by decide)]
  exact ⟨rfl, rfl⟩

theorem parts_mod4 (s f : Nat) : partsAsDuration s f % 4 = 0 := by
  simp [partsAsDuration, Nat.mul_mod]

theorem dts_mod4 (t : Nat) : dts t % 4 = 0 := parts_mod4 _ _

theorem max_mod4 {a b : Nat} (ha : a % 4 = 0) (hb : b % 4 = 0) : max a b % 4 = 0 := by
  rw [Nat.max_def]; split <;> assumption

theorem dur_dts (t : Nat) (h : fractional t < 250) :
    durSecs (dts t) = seconds t ∧ durFrac (dts t) = fractional t :=
  dur_parts _ _ h

/-- Seconds that fit 32 bits are not wrapped by the shift. -/
theorem pack_eq_sum (ms k n : Nat) (hs : durSecs ms ≤ TIMESTAMP_MAX) :
    pack ms k n = durSecs ms * 4294967296 + durFrac ms * 16777216 + k * 256 + n := by
  unfold pack; rw [Nat.mod_eq_of_lt (by omega)]

theorem pack_fields (ms k n : Nat) (hs : durSecs ms ≤ TIMESTAMP_MAX) (hk : k < 65536) (hn : n < 256) :
    seconds (pack ms k n) = durSecs ms ∧ fractional (pack ms k n) = durFrac ms ∧
    counter (pack ms k n) = k ∧ node (pack ms k n) = n :=
  fields_of_sum (pack_eq_sum ms k n hs) (Nat.lt_trans (durFrac_lt ms) (by decide)) hk hn

theorem pack_spec (ms k n : Nat) (hs : durSecs ms ≤ TIMESTAMP_MAX) (hk : k < 65536) (hn : n < 256)
    (h4 : ms % 4 = 0) :
    dts (pack ms k n) = ms ∧ counter (pack ms k n) = k ∧ node (pack ms k n) = n ∧
    pack ms k n < U64 ∧ fractional (pack ms k n) < 250 := by
  obtain ⟨f1, f2, f3, f4⟩ := pack_fields ms k n hs hk hn
  refine ⟨?_, f3, f4, (seconds_lt_iff _).1 (f1 ▸ Nat.lt_succ_of_le hs), f2 ▸ durFrac_lt ms⟩
  unfold dts; rw [f1, f2]; exact parts_dur ms h4

theorem pack_div_256 {ms n : Nat} (k : Nat) (hs : durSecs ms ≤ TIMESTAMP_MAX) (hn : n < 256) :
    pack ms k n / 256 = (durSecs ms * 256 + durFrac ms) * 65536 + k := by
  rw [pack_eq_sum ms k n hs, ← horner_eq, (digit hn).1]

theorem new?_of_le {ms k n : Nat} (h : durSecs ms ≤ TIMESTAMP_MAX) :
    new? ms k n = some (pack ms k n) := if_pos h

theorem new?_eq_some {ms k n t : Nat} (h : new? ms k n = some t) :
    durSecs ms ≤ TIMESTAMP_MAX ∧ pack ms k n = t :=
  Option.ite_some_none_eq_some.1 h

theorem durSecs_dts_le (t : Nat) (h1 : t < U64) (h2 : fractional t < 250) :
    durSecs (dts t) ≤ TIMESTAMP_MAX := by
  rw [(dur_dts t h2).1]
  exact Nat.le_of_lt_succ ((seconds_lt_iff t).2 h1)

theorem repack (t : Nat) (h1 : t < U64) (h2 : fractional t < 250) :
    pack (dts t) (counter t) (node t) = t := by
  rw [pack_eq_sum _ _ _ (durSecs_dts_le t h1 h2), (dur_dts t h2).1, (dur_dts t h2).2]
  exact (decomp t).symm

theorem pack_zero (n : Nat) : pack 0 0 n = n := by
  simp [pack, durSecs, durFrac]

/-- A bare node id is the first stamp of that node. -/
theorem spec_of_lt (n : Nat) (hn : n < 256) :
    dts n = 0 ∧ counter n = 0 ∧ node n = n ∧ n < U64 ∧ fractional n < 250 := by
  have h := pack_spec 0 0 n (Nat.zero_le _) (by decide) hn rfl
  rwa [pack_zero] at h

/-- `a` is any number, also one whose own `fractional` is 250..255 (its time then runs into the next
second, and it still compares the right way). -/
theorem lt_of_time (a b : Nat) (hb : fractional b < 250)
    (h : dts a < dts b ∨ (dts a = dts b ∧ (counter a < counter b ∨
      (counter a = counter b ∧ node a < node b)))) : a < b := by
  rw [lt_iff_lex]
  have := fractional_lt a
  unfold dts partsAsDuration at h
  grind

theorem lt_iff_time (a b : Nat) (ha : fractional a < 250) (hb : fractional b < 250) :
    a < b ↔ dts a < dts b ∨ (dts a = dts b ∧ (counter a < counter b ∨
      (counter a = counter b ∧ node a < node b))) := by
  refine ⟨fun h => ?_, lt_of_time a b hb⟩
  rw [lt_iff_lex] at h
  unfold dts partsAsDuration
  grind

/-- Any milliseconds, not only whole 4 ms: `forgive` subtracts an arbitrary period. -/
theorem pack_le_pack {ms ms' k k' : Nat} (n : Nat) (hms : ms ≤ ms') (hs : durSecs ms' ≤ TIMESTAMP_MAX)
    (hk : k ≤ k') : pack ms k n ≤ pack ms' k' n := by
  have h1 : durSecs ms ≤ durSecs ms' := Nat.div_le_div_right hms
  have : durSecs ms = durSecs ms' → durFrac ms ≤ durFrac ms' := by unfold durSecs durFrac; grind
  have := durFrac_lt ms
  rw [pack_eq_sum ms' k' n hs, pack_eq_sum ms k n (Nat.le_trans h1 hs)]
  grind

/-! The exits of `send` and `recv`: what each outcome says about the arguments (`T` is the new logical time).  The
proofs take the conditionals apart with `iteInduction`: `split` does the same and is several times slower to check. -/

def SendExit (c wall T : Nat) : Except Err Nat → Prop
  | .error .clockDrift => dts c > wall + MAX_CLOCK_DRIFT_MS
  | .error .overflow => dts c ≤ wall + MAX_CLOCK_DRIFT_MS ∧
      (durSecs T > TIMESTAMP_MAX ∨ (wall ≤ dts c ∧ counter c = 65535))
  | .error .duplicatedNode => False
  | .ok c' => dts c ≤ wall + MAX_CLOCK_DRIFT_MS ∧ durSecs T ≤ TIMESTAMP_MAX ∧
      ∃ k, k < 65536 ∧ (wall ≤ dts c → counter c < k) ∧ c' = pack T k (node c)

theorem send_exit (c wall : Nat) : SendExit c wall (max (dts c) wall) (send c wall) := by
  have hk := counter_lt c
  rw [send]
  refine iteInduction (fun h => (by omega : dts c > wall + 4100000)) fun h1 => ?_
  have hd := (Nat.max_le.1 (Nat.sub_le_iff_le_add'.1 (Nat.le_of_not_gt h1))).1
  refine iteInduction (fun h => ⟨hd, .inl h⟩) fun h2 => ?_
  have hs := Nat.le_of_not_gt h2
  refine iteInduction (fun h3 => ?_) fun h3 => ⟨hd, hs, 0, by decide, fun hw => absurd (Nat.max_eq_left hw).symm h3, rfl⟩
  exact iteInduction (fun h => ⟨hd, .inr ⟨h3 ▸ Nat.le_max_right .., by omega⟩⟩) fun h =>
    ⟨hd, hs, _, Nat.lt_succ_of_le (Nat.le_of_not_gt h), fun _ => Nat.lt_succ_self _, rfl⟩

def CounterExit (tsNew tsOld tsMsg cOld cMsg : Nat) : Except Err Nat → Prop
  | .ok k => k < 65536 ∧ (tsNew = tsOld → cOld < k) ∧ (tsNew = tsMsg → cMsg < k)
  | .error e => e = .overflow

theorem recvCounter_exit (tsNew tsOld tsMsg cOld cMsg : Nat) :
    CounterExit tsNew tsOld tsMsg cOld cMsg (recvCounter tsNew tsOld tsMsg cOld cMsg) := by
  -- every branch but the last ends in the same step: the next counter value, if there is one
  have bump : ∀ z, (tsNew = tsOld → cOld ≤ z) → (tsNew = tsMsg → cMsg ≤ z) →
      CounterExit tsNew tsOld tsMsg cOld cMsg (if z + 1 > 65535 then .error .overflow else .ok (z + 1)) :=
    fun z hx hy => iteInduction (fun _ => rfl) fun h =>
      ⟨by omega, fun h => Nat.lt_succ_of_le (hx h), fun h => Nat.lt_succ_of_le (hy h)⟩
  unfold recvCounter
  refine iteInduction (fun _ => bump _ (fun _ => Nat.le_max_left ..) (fun _ => Nat.le_max_right ..)) fun h1 => ?_
  refine iteInduction (fun h2 => bump _ (fun _ => Nat.le_refl _) (fun h => absurd ⟨h2, h⟩ h1)) fun h2 => ?_
  refine iteInduction (fun _ => bump _ (fun h => absurd h h2) (fun _ => Nat.le_refl _)) fun h3 => ?_
  exact ⟨by decide, fun h => absurd h h2, fun h => absurd h h3⟩

def RecvExit (c wall msg T : Nat) : Res (Nat × Nat) → Prop
  | .err .duplicatedNode => node c = node msg
  | .err .clockDrift => node c ≠ node msg ∧
      (dts msg > wall + MAX_CLOCK_DRIFT_MS ∨ dts c > wall + MAX_CLOCK_DRIFT_MS)
  | .err .overflow => node c ≠ node msg ∧
      dts msg ≤ wall + MAX_CLOCK_DRIFT_MS ∧ dts c ≤ wall + MAX_CLOCK_DRIFT_MS ∧
      (durSecs T > TIMESTAMP_MAX ∨
        recvCounter T (dts c) (dts msg) (counter c) (counter msg) = .error .overflow)
  | .ok (c', r) => node c ≠ node msg ∧
      dts msg ≤ wall + MAX_CLOCK_DRIFT_MS ∧ dts c ≤ wall + MAX_CLOCK_DRIFT_MS ∧
      durSecs T ≤ TIMESTAMP_MAX ∧
      ∃ k, recvCounter T (dts c) (dts msg) (counter c) (counter msg) = .ok k ∧
        k < 65536 ∧ (T = dts c → counter c < k) ∧ (T = dts msg → counter msg < k) ∧
        c' = pack T k (node c) ∧ r = pack T k (node msg)
  | .panic => False

theorem recv_exit (c wall msg : Nat) :
    RecvExit c wall msg (max (max (dts c) wall) (dts msg)) (recv c wall msg) := by
  rw [recv]
  dsimp only
  refine iteInduction id fun hn => ?_
  refine iteInduction (fun h => ⟨hn, .inl (Nat.lt_sub_iff_add_lt'.1 h)⟩) fun h1 => ?_
  have hdm := Nat.sub_le_iff_le_add'.1 (Nat.le_of_not_gt h1)
  refine iteInduction (fun h => ⟨hn, .inr (by omega)⟩) fun h2 => ?_
  have hdc := (Nat.max_le.1 (Nat.max_le.1 (Nat.sub_le_iff_le_add'.1 (Nat.le_of_not_gt h2))).1).1
  refine iteInduction (fun h => ⟨hn, hdm, hdc, .inl h⟩) fun h3 => ?_
  have hs := Nat.le_of_not_gt h3
  have hc := recvCounter_exit (max (max (dts c) wall) (dts msg)) (dts c) (dts msg) (counter c) (counter msg)
  split
  next e he =>
    rw [he] at hc
    obtain rfl : e = .overflow := hc
    exact ⟨hn, hdm, hdc, .inr he⟩
  next k he =>
    rw [he] at hc
    rw [(pack_fields _ k (node c) hs hc.1 (node_lt c)).2.2.1, new?_of_le hs]
    exact ⟨hn, hdm, hdc, hs, k, he, hc.1, hc.2.1, hc.2.2, rfl, rfl⟩
end Datacake.Ts
