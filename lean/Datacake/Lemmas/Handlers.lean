/- A batch of operations on pairwise distinct ids overwrites, per id, what was there (`Overwrites`) —
on the set (`view_applyAll`) and on the store (`storeView_foldl`) alike, in whatever order each of
them takes the batch; hence `agree_commit`.  `on_multi_set` and `on_multi_del` are one handler
(`onBulk`) that commits such a batch, and `on_purge_tombstones` removes the same ids on both sides
(`view_purge_readd`, `storeView_eraseRows`). -/
import Datacake.Lemmas.Keyspace
import Datacake.Lemmas.SortByTs

/- Definitions in the namespace of C02 (its theorems are in `Props/C02.lean`) that the lemmas here and
in `Lemmas/ClusterFrame.lean` need. -/
namespace Datacake.C02
open Datacake.OrSwot Datacake.Keyspace

/-- The operations of a bulk request as they reach the set (after the stamp sort). -/
def toOps (src : Nat) (isDel : Bool) (l : List (Nat × Nat)) : List SrcOp :=
  l.map (fun e => ⟨src, ⟨e.1, e.2, isDel⟩⟩)

/-- A mutation request reaching a node, with the behaviour of storage during it. -/
inductive Req where
  | set (src : Nat) (d : Doc) (fail : Bool)
  | del (src id ts : Nat) (fail : Bool)
  | mset (src : Nat) (docs : List Doc) (written : Option (List Nat))
  | mdel (src : Nat) (docs : List (Nat × Nat)) (written : Option (List Nat))
  | purge (removed : Option (List Nat))

def handle (F : Nat) (n : Node) : Req → Node
  | .set src d fail => (onSet F n src d fail).1
  | .del src id ts fail => (onDel F n src id ts fail).1
  | .mset src docs w => (onMultiSet F n src docs w).1
  | .mdel src docs w => (onMultiDel F n src docs w).1
  | .purge r => (onPurge n r).1

end Datacake.C02

namespace Datacake.Keyspace
open Datacake.Lww Datacake.OrSwot Datacake.Storage Datacake.C02

def Overwrites (ops : List Op) (ρ ρ' : Nat → Option Nat) : Prop :=
  ∀ k, (∀ o ∈ ops, o.key = k → ρ' k = some (rank o)) ∧ ((∀ o ∈ ops, o.key ≠ k) → ρ' k = ρ k)

theorem Overwrites.unique {ops ops' : List Op} {ρ₁ ρ₂ ρ₁' ρ₂' : Nat → Option Nat}
    (h₁ : Overwrites ops ρ₁ ρ₁') (h₂ : Overwrites ops' ρ₂ ρ₂') (hm : ∀ o, o ∈ ops ↔ o ∈ ops')
    (hρ : ∀ k, ρ₁ k = ρ₂ k) (k : Nat) : ρ₁' k = ρ₂' k := by
  by_cases hex : ∃ o ∈ ops, o.key = k
  · obtain ⟨o, ho, hk⟩ := hex
    rw [(h₁ k).1 o ho hk, (h₂ k).1 o ((hm o).1 ho) hk]
  · have hno : ∀ o ∈ ops, o.key ≠ k := fun o ho hk => hex ⟨o, ho, hk⟩
    rw [(h₁ k).2 hno, (h₂ k).2 (fun o ho => hno o ((hm o).2 ho)), hρ k]

theorem view_applyAll {ι : Type} (F : Nat) (s : OrSwot) (src : Nat) (op : ι → Op) (l : List ι) (hd : Disj s)
    (hnd : (l.map (fun i => (op i).key)).Nodup) (hnew : ∀ i ∈ l, Newer (view s (op i).key) (rank (op i)))
    (hacc : C04.Accepted F s (l.map (fun i => ⟨src, op i⟩))) :
    Overwrites (l.map op) (view s) (view (applyAll F s (l.map (fun i => ⟨src, op i⟩)))) ∧
    Disj (applyAll F s (l.map (fun i => ⟨src, op i⟩))) := by
  obtain ⟨hv, hdj⟩ := C04.apply_ops_lww_from F _ s hd hacc
  simp only [List.map_map, Function.comp_def] at hv
  refine ⟨fun k => ⟨fun o ho hk => ?_, fun hno => ?_⟩, hdj⟩
  · obtain ⟨i, hi, rfl⟩ := List.mem_map.1 ho
    rw [hv k, ← hk, lwwFrom_nodup (by rwa [List.map_map]) ho, join_of_newer (hnew i hi)]
  · rw [hv k, lwwFrom_not_mem hno]

theorem storeView_foldl {α : Type} (op : α → Op) (bytes : α → List Nat) (w : List α)
    (hnd : (w.map (fun d => (op d).key)).Nodup) (ks : Storage.Keyspace) (hd : DataOk ks) :
    Overwrites (w.map op) (storeView ks)
      (storeView (w.foldl (fun ks d => storeOp ks (op d) (bytes d)) ks)) ∧
    DataOk (w.foldl (fun ks d => storeOp ks (op d) (bytes d)) ks) := by
  have h := foldl_keylocal storeView (fun d => (op d).key) (fun ks d => storeOp ks (op d) (bytes d))
    (fun d _ => some (rank (op d))) DataOk (fun s d h => dataOk_storeOp s _ _ h)
    (fun s d k _ => storeView_storeOp s _ _ k) w hnd ks hd
  exact ⟨fun k => ⟨List.forall_mem_map.2 (h k).2.2, fun hno => (h k).2.1 fun d hd => hno _ (List.mem_map_of_mem hd)⟩,
    (h 0).1⟩

def opOf (isDel : Bool) (e : Nat × Nat) : Op := ⟨e.1, e.2, isDel⟩

theorem foldl_eq_applyAll (F : Nat) (s : OrSwot) (src : Nat) (isDel : Bool) (l : List (Nat × Nat)) :
    l.foldl (fun s e => (applyOp F s ⟨src, opOf isDel e⟩).1) s = applyAll F s (toOps src isDel l) := by
  unfold applyAll toOps
  rw [List.foldl_map]; rfl

def Node.commit {α : Type} (F : Nat) (n : Node) (src : Nat) (isDel : Bool) (l : List (Nat × Nat))
    (ent : α → Nat × Nat) (bytes : α → List Nat) (w : List α) : Node :=
  { set := applyAll F n.set (toOps src isDel l),
    store := w.foldl (fun ks d => storeOp ks (opOf isDel (ent d)) (bytes d)) n.store }

theorem agree_commit {α : Type} (F : Nat) (n : Node) (src : Nat) (isDel : Bool) (l : List (Nat × Nat))
    (ent : α → Nat × Nat) (bytes : α → List Nat) (w : List α) (h : Agree n)
    (hperm : l.Perm (w.map ent)) (hnd : (l.map (·.1)).Nodup)
    (hw : ∀ e ∈ l, willApply n.set e.1 e.2 = true)
    (hacc : C04.Accepted F n.set (toOps src isDel l)) :
    Agree (n.commit F src isDel l ent bytes w) := by
  obtain ⟨hv, hdj⟩ := view_applyAll F n.set src (opOf isDel) l h.disj hnd
    (fun e he => newer_of_willApply n.set _ (hw e he)) hacc
  have hm := hperm.map (opOf isDel)
  rw [List.map_map] at hm
  have hwnd := (hperm.map (·.1)).nodup_iff.1 hnd
  rw [List.map_map] at hwnd
  obtain ⟨hs, hdata⟩ := storeView_foldl (opOf isDel ∘ ent) bytes w hwnd n.store h.data
  exact ⟨hv.unique hs (fun _ => hm.mem_iff) h.same, hdj, hdata⟩

theorem pick_sublist {α : Type} (l : List α) (idxs : List Nat) : (pick l idxs).Sublist l := by
  have h := List.Sublist.map Prod.fst (List.filter_sublist (l := l.zipIdx) (p := fun p => idxs.contains p.2))
  rwa [List.zipIdx_map_fst] at h

theorem pick_nil {α : Type} (l : List α) : pick l [] = [] := by
  simp [pick]

section
variable {α : Type} (ent : α → Nat × Nat) (isDel : Bool) (bytes : α → List Nat) (F : Nat) (n : Node) (src : Nat)
  (docs : List α) (written : Option (List Nat))

def admitted {α : Type} (ent : α → Nat × Nat) (s : OrSwot) (docs : List α) : List α :=
  docs.filter (fun d => willApply s (ent d).1 (ent d).2)

theorem mem_admitted {s : OrSwot} {docs : List α} {d : α} :
    d ∈ admitted ent s docs ↔ d ∈ docs ∧ willApply s (ent d).1 (ent d).2 = true :=
  List.mem_filter

/-- `on_multi_set` and `on_multi_del` (after `newest`) as one handler; `l`, `w` of `Node.commit` are the
entries as the set takes them (by stamp) and the documents as storage wrote them (request order). -/
def onBulk {α : Type} (ent : α → Nat × Nat) (isDel : Bool) (bytes : α → List Nat) (F : Nat) (n : Node) (src : Nat)
    (docs : List α) (written : Option (List Nat)) : Node × Out :=
  let valid := admitted ent n.set docs
  let entries := sortByTs (valid.map ent)
  match written with
  | none => (n.commit F src isDel entries ent bytes valid, .ok)
  | some idxs =>
    let w := pick valid idxs
    let reported := w.map (fun d => (ent d).1)
    (n.commit F src isDel (entries.filter (fun e => reported.contains e.1)) ent bytes w, .err reported)

theorem onBulk_spec (hnd : (docs.map (fun d => (ent d).1)).Nodup) :
    ∃ l w, (onBulk ent isDel bytes F n src docs written).1 = n.commit F src isDel l ent bytes w ∧
      l.Perm (w.map ent) ∧ l.Pairwise (fun a b => a.2 ≤ b.2) ∧ (l.map (·.1)).Nodup ∧
      ∀ e ∈ l, e ∈ (admitted ent n.set docs).map ent := by
  have hvnd : ((admitted ent n.set docs).map (fun d => (ent d).1)).Nodup :=
    List.Nodup.sublist (List.filter_sublist.map _) hnd
  have key : ∀ (l : List (Nat × Nat)) (w : List α), l.Perm (w.map ent) →
      w.Sublist (admitted ent n.set docs) →
      (l.map (·.1)).Nodup ∧
      ∀ e ∈ l, e ∈ (admitted ent n.set docs).map ent :=
    fun l w hperm hsub =>
      ⟨by rw [(hperm.map _).nodup_iff, List.map_map]; exact List.Nodup.sublist (hsub.map _) hvnd,
       fun e he => (hsub.map ent).subset (hperm.mem_iff.1 he)⟩
  cases written with
  | none =>
    exact ⟨_, _, rfl, sortByTs_perm, sortByTs_sorted, key _ _ sortByTs_perm (List.Sublist.refl _)⟩
  | some idxs =>
    refine ⟨_, _, rfl, ?hp, sortByTs_sorted.filter _, key _ _ ?hp (pick_sublist _ idxs)⟩
    -- ids are distinct: the entries whose id was reported are those of the documents written
    refine (sortByTs_perm.filter _).trans ?_
    rw [List.filter_map]
    exact List.Perm.of_eq (congrArg _
      (filter_contains_of_sublist (fun d => (ent d).1) (pick_sublist _ idxs) hvnd))

/-- `hacc`: none of the applied entries is refused as too old when its turn comes (proved from exact
cut-offs in `Props/C02b.lean`: `accepted_batch`). -/
theorem agree_onBulk (h : Agree n) (hnd : (docs.map (fun d => (ent d).1)).Nodup)
    (hacc : ∀ l, (∀ e ∈ l, e ∈ (admitted ent n.set docs).map ent) →
      (l.map (·.1)).Nodup → l.Pairwise (fun a b => a.2 ≤ b.2) → C04.Accepted F n.set (toOps src isDel l)) :
    Agree (onBulk ent isDel bytes F n src docs written).1 := by
  obtain ⟨l, w, e, hperm, hsorted, hlnd, hmem⟩ := onBulk_spec ent isDel bytes F n src docs written hnd
  rw [e]
  refine agree_commit F n src isDel l ent bytes w h hperm hlnd (fun e he => ?_) (hacc l hmem hlnd hsorted)
  obtain ⟨d, hd, rfl⟩ := List.mem_map.1 (hmem e he)
  exact ((mem_admitted ent).1 hd).2

end

theorem onMultiSetCore_eq (F : Nat) (n : Node) (src : Nat) (docs : List Doc) (written : Option (List Nat)) :
    onMultiSetCore F n src docs written =
      onBulk (fun d => (d.1, d.2.1)) false (fun d => d.2.2) F n src docs written := by
  unfold onMultiSetCore onBulk Node.commit
  cases written <;> simp only [← foldl_eq_applyAll] <;> rfl

theorem onMultiDelCore_eq (F : Nat) (n : Node) (src : Nat) (docs : List (Nat × Nat)) (written : Option (List Nat)) :
    onMultiDelCore F n src docs written = onBulk id true (fun _ => []) F n src docs written := by
  unfold onMultiDelCore onBulk Node.commit
  cases written <;> simp only [← foldl_eq_applyAll, List.map_id] <;> rfl

theorem addRawTombstones_dead (s : OrSwot) (l : List (Nat × Nat)) (hnd : (l.map (·.1)).Nodup) (k : Nat) :
    (∀ p ∈ l, p.1 = k → Map.get (addRawTombstones s l).dead k = some p.2) ∧
    ((∀ p ∈ l, p.1 ≠ k) → Map.get (addRawTombstones s l).dead k = Map.get s.dead k) := by
  obtain ⟨_, h1, h2⟩ := foldl_keylocal (fun (d : Map) k => Map.get d k) (fun p : Nat × Nat => p.1)
    (fun d p => Map.set d p.1 p.2) (fun p _ => some p.2) (fun _ => True) (fun _ _ _ => trivial)
    (fun d p k _ => Map.get_set d p.1 p.2 k) l hnd s.dead trivial k
  exact ⟨fun p hp hk => h2 p hp hk, h1⟩

theorem dead_purge_readd (s : OrSwot) (keep : Nat × Nat → Bool) (k : Nat) :
    Map.get (addRawTombstones (purgeOldDeletes s).1 ((purgeOldDeletes s).2.filter keep)).dead k =
      match Map.get s.dead k with
      | some d => if isBefore s.safe d = true ∧ keep (k, d) = false then none else some d
      | none => none := by
  have hR : ∀ q, q ∈ (purgeOldDeletes s).2.filter keep ↔
      (Map.get s.dead q.1 = some q.2 ∧ isBefore s.safe q.2 = true) ∧ keep q = true := fun q => by
    rw [List.mem_filter, mem_purged s]
  have hnd : (((purgeOldDeletes s).2.filter keep).map (·.1)).Nodup :=
    List.Nodup.sublist ((List.filter_sublist.trans List.filter_sublist).map _) (Map.bindings_nodup s.dead)
  obtain ⟨g1, g2⟩ := addRawTombstones_dead (purgeOldDeletes s).1 _ hnd k
  by_cases hex : ∃ q ∈ (purgeOldDeletes s).2.filter keep, q.1 = k
  · obtain ⟨q, hq, rfl⟩ := hex
    obtain ⟨⟨h1, _⟩, h3⟩ := (hR q).1 hq
    rw [g1 q hq rfl, h1]
    simp [h3]
  · rw [g2 (fun q hq e => hex ⟨q, hq, e⟩), purge_dead_get]
    cases hg : Map.get s.dead k with
    | none => rfl
    | some d =>
      -- were the tombstone purged and kept, it would be in the list
      by_cases hb : isBefore s.safe d = true
      · exact (if_pos hb).trans (if_pos ⟨hb, Bool.eq_false_iff.2 fun hc =>
          hex ⟨(k, d), (hR _).2 ⟨⟨hg, hb⟩, hc⟩, rfl⟩⟩).symm
      · exact (if_neg hb).trans (if_neg fun h => hb h.1).symm

theorem view_purge_readd (s : OrSwot) (hd : Disj s) (done : List (Nat × Nat))
    (hsub : ∀ p ∈ done, p ∈ (purgeOldDeletes s).2) :
    let s' := addRawTombstones (purgeOldDeletes s).1
      ((purgeOldDeletes s).2.filter (fun p => !(done.map (·.1)).contains p.1))
    (∀ k, view s' k = if k ∈ done.map (·.1) then none else view s k) ∧ Disj s' := by
  refine ⟨fun k => ?_, fun k => (hd k).imp id (fun e => by rw [dead_purge_readd, e])⟩
  rw [view_of_gets, view_of_gets, dead_purge_readd]
  simp only [addRawTombstones, purgeOldDeletes]
  by_cases hk : k ∈ done.map (·.1)
  · obtain ⟨p, hp, rfl⟩ := List.mem_map.1 hk
    obtain ⟨h1, h2⟩ := (mem_purged s p.1 p.2).1 (hsub p hp)
    rw [hd.entries_none h1, h1]
    simp [h2, hk]
  · cases Map.get s.dead k <;> simp [hk]

theorem storeView_eraseRows (l : List (Nat × Nat)) (ks : Storage.Keyspace) (k : Nat) :
    storeView (l.foldl (fun ks p => { ks with rows := aerase ks.rows p.1 }) ks) k =
      if k ∈ l.map (·.1) then none else storeView ks k := by
  rw [eraseRows_eq Prod.fst, storeView_rows, storeView_rows, aget_foldl_aerase]
  split <;> rfl

theorem dataOk_eraseRows (l : List (Nat × Nat)) (ks : Storage.Keyspace) (h : DataOk ks)
    (htomb : ∀ p ∈ l, ∀ ts, aget ks.rows p.1 ≠ some (ts, false)) :
    DataOk (l.foldl (fun ks p => { ks with rows := aerase ks.rows p.1 }) ks) := by
  -- the rows that go hold no bytes, and erasing rows leaves the bytes as they are
  have hd : ∀ p ∈ l, aget ks.data p.1 = none := fun p hp => Option.not_isSome_iff_eq_none.1 fun hs =>
    (h p.1).1 hs |>.elim (htomb p hp)
  exact (List.foldlRecOn l _ (motive := fun x => DataOk x ∧ x.data = ks.data) ⟨h, rfl⟩
    fun x hx p hp => ⟨dataOk_eraseRow hx.1 (hx.2 ▸ hd p hp), hx.2⟩).1

end Datacake.Keyspace
