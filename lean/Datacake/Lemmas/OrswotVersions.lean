/- `NodeVersions`: what its functions compute, through `get`; the invariant `VersInv`; what a refusal
means (`VersInv.before`), and from it: a stamp close enough to everything applied from its origin
is never "before the last observed event". -/
import Datacake.Lemmas.Lww
import Datacake.Lemmas.Forgive

namespace Datacake.OrSwot
open Datacake.Lww Datacake.Map Datacake.Ts

theorem minList_eq (x : Nat) (xs : List Nat) : (x :: xs).min? = some (minList x xs) := rfl

theorem minList_mem (x : Nat) (xs : List Nat) : minList x xs ∈ x :: xs :=
  (List.min?_eq_some_iff.1 (minList_eq x xs)).1

theorem minList_le (x : Nat) (xs : List Nat) : ∀ y ∈ x :: xs, minList x xs ≤ y :=
  (List.min?_eq_some_iff.1 (minList_eq x xs)).2

/-- What each source remembers of origin `X` (the default when nothing). -/
def srcVals (maxs : List Map) (X : Nat) : List Nat :=
  maxs.map (fun m => (Map.get m X).getD (pack 0 0 X))

theorem computeSafe_get (F : Nat) (maxs : List Map) (safe : Map) (X Y : Nat) :
    Map.get (computeSafe F maxs safe X) Y =
      match srcVals maxs X with
      | [] => Map.get safe Y
      | x :: xs => if Y = X then some (forgive F (minList x xs)) else Map.get safe Y := by
  unfold computeSafe srcVals
  split
  next h => rw [h]
  next x xs h => rw [h]; exact get_set ..

/-- `maxs = []`: with no sources at all `compute_safe_last_stamp` leaves every cut-off alone. -/
theorem foldl_computeSafe_cases (F : Nat) (maxs : List Map) (nodes : List Nat) (safe : Map) (X : Nat) :
    (∃ x xs, X ∈ nodes ∧ srcVals maxs X = x :: xs ∧
      Map.get (nodes.foldl (fun sf nd => computeSafe F maxs sf nd) safe) X = some (forgive F (minList x xs))) ∨
    (X ∉ nodes ∨ maxs = []) ∧
      Map.get (nodes.foldl (fun sf nd => computeSafe F maxs sf nd) safe) X = Map.get safe X := by
  induction nodes generalizing safe with
  | nil => exact Or.inr ⟨Or.inl List.not_mem_nil, rfl⟩
  | cons nd rest ih =>
    rw [List.foldl_cons]
    rcases ih (computeSafe F maxs safe nd) with ⟨x, xs, hm, hs, e⟩ | ⟨hX, e⟩
    · exact Or.inl ⟨x, xs, List.mem_cons_of_mem _ hm, hs, e⟩
    · rw [e, computeSafe_get]
      cases hsv : srcVals maxs nd with
      | nil => exact Or.inr ⟨Or.inr (List.map_eq_nil_iff.1 hsv), rfl⟩
      | cons x xs =>
        by_cases he : X = nd
        · subst he
          exact Or.inl ⟨x, xs, List.mem_cons_self, hsv, if_pos rfl⟩
        · exact Or.inr ⟨hX.imp_left fun h hm => (List.mem_cons.1 hm).elim he h, if_neg he⟩

theorem isBefore_iff {safe : Map} {t : Nat} :
    isBefore safe t = true ↔ ∃ v, Map.get safe (node t) = some v ∧ t < v := by
  unfold isBefore
  cases Map.get safe (node t) <;> simp

theorem isBefore_eq_false_iff {safe : Map} {t : Nat} :
    isBefore safe t = false ↔ ∀ v, Map.get safe (node t) = some v → v ≤ t := by
  unfold isBefore
  cases Map.get safe (node t) <;> simp

theorem modifyNth_getElem? (l : List Map) (i : Nat) (f : Map → Map) (j : Nat) :
    (modifyNth l i f)[j]? = if j = i then l[j]?.map f else l[j]? := by
  induction l generalizing i j with
  | nil => simp [modifyNth]
  | cons x xs ih =>
    cases i <;> cases j
    · rfl
    · rfl
    · rfl
    · simp only [modifyNth, List.getElem?_cons_succ, ih, Nat.add_right_cancel_iff]

theorem modifyNth_getD (l : List Map) (src : Nat) (f : Map → Map) (i : Nat) :
    (modifyNth l src f).getD i [] = if i = src ∧ i < l.length then f (l.getD i []) else l.getD i [] := by
  induction l generalizing src i with
  | nil => simp [modifyNth]
  | cons x xs ih =>
    cases src <;> cases i
    · rfl
    · rfl
    · rfl
    · simp only [modifyNth, List.getD_cons_succ, ih, Nat.add_right_cancel_iff, List.length_cons,
        Nat.add_lt_add_iff_right]

theorem modifyNth_length {l : List Map} {i : Nat} {f : Map → Map} : (modifyNth l i f).length = l.length := by
  induction l generalizing i with
  | nil => rfl
  | cons x xs ih => cases i <;> simp [modifyNth, ih]

theorem modifyNth_map {α : Type} {g : Map → α} {l : List Map} {i : Nat} {f : Map → Map}
    (h : ∀ m, g (f m) = g m) : (modifyNth l i f).map g = l.map g := by
  induction l generalizing i with
  | nil => rfl
  | cons x xs ih => cases i <;> simp [modifyNth, h, ih]

/-- The update of one per-source map in `try_update_max_stamp`. -/
def bumpMap (ts : Nat) (m : Map) : Map :=
  match Map.get m (node ts) with
  | some old => if old < ts then Map.set m (node ts) ts else m
  | none => Map.set m (node ts) ts

/-- The version vectors after an accepted stamp `ts` arriving through `src`. -/
def bumped (F : Nat) (s : OrSwot) (src ts : Nat) : OrSwot :=
  { s with maxs := modifyNth s.maxs src (bumpMap ts),
           safe := computeSafe F (modifyNth s.maxs src (bumpMap ts)) s.safe (node ts) }

theorem tryUpdateMax_def (F : Nat) (s : OrSwot) (src ts : Nat) :
    tryUpdateMax F s src ts =
      if isBefore s.safe ts then none else some ((bumped F s src ts).maxs, (bumped F s src ts).safe) := rfl

theorem bumpMap_get_eq (ts : Nat) (m : Map) (Y : Nat) :
    Map.get (bumpMap ts m) Y = if Y = node ts then join (Map.get m Y) ts else Map.get m Y := by
  -- the stamp is written exactly when it is newer than what the map holds for its origin
  have hb : bumpMap ts m = if Newer (Map.get m (node ts)) ts then Map.set m (node ts) ts else m := by
    unfold bumpMap
    cases Map.get m (node ts) with
    | none => exact (if_pos fun _ h => nomatch h).symm
    | some old => simp only [newer_some]
  rw [hb, apply_ite (Map.get · Y), get_set]
  by_cases hY : Y = node ts
  · subst hY; simp only [if_true, join_eq_ite]
  · simp only [hY, if_false, ite_self]

/-- `mergeVersions_go_mem` is the same statement for `NodeVersions::merge`. -/
theorem bumped_mem {l : List Map} {src ts : Nat} {mp : Map} {n v : Nat}
    (hmp : mp ∈ modifyNth l src (bumpMap ts)) (hv : Map.get mp n = some v) :
    (∃ m ∈ l, Map.get m n = some v) ∨ (n = node ts ∧ v = ts) := by
  obtain ⟨j, hj⟩ := List.mem_iff_getElem?.1 hmp
  rw [modifyNth_getElem?] at hj
  split at hj
  · obtain ⟨m0, hl, rfl⟩ := Option.map_eq_some_iff.1 hj
    rw [bumpMap_get_eq] at hv
    split at hv
    · exact (join_cases hv).imp (fun h => ⟨m0, List.mem_of_getElem? hl, h⟩) fun e => ⟨‹_›, e⟩
    · exact Or.inl ⟨m0, List.mem_of_getElem? hl, hv⟩
  · exact Or.inl ⟨mp, List.mem_of_getElem? hj, hv⟩

/-- The per-source update of `NodeVersions::merge`: one remote binding. -/
def raiseMax (acc : Map) (p : Nat × Nat) : Map :=
  match acc.get p.1 with
  | some old => if p.2 < old then acc else acc.set p.1 p.2
  | none => acc.set p.1 p.2

def mentioned (other : List Map) : List Nat := (other.map (fun t => t.bindings.map Prod.fst)).flatten

theorem mergeVersions_go_eq : ∀ (mine theirs : List Map),
    mergeVersions.go mine theirs =
      match mine, theirs with
      | m :: ms, t :: ts => (t.bindings.foldl raiseMax m) :: mergeVersions.go ms ts
      | ms, _ => ms := by
  intro mine theirs
  cases mine <;> cases theirs <;> rfl

theorem foldl_raiseMax_get (L : List (Nat × Nat)) (m : Map) (n v : Nat)
    (h : Map.get (L.foldl raiseMax m) n = some v) : Map.get m n = some v ∨ (n, v) ∈ L := by
  refine List.foldlRecOn L raiseMax (motive := fun acc => Map.get acc n = some v → _) Or.inl
    (fun acc ih x hx h' => ?_) h
  unfold raiseMax at h'
  have hset : Map.get (Map.set acc x.1 x.2) n = some v → Map.get m n = some v ∨ (n, v) ∈ L := by
    intro h'
    rw [get_set] at h'
    split at h'
    next hn => cases h'; exact Or.inr (hn ▸ hx)
    · exact ih h'
  split at h'
  · split at h'
    · exact ih h'
    · exact hset h'
  · exact hset h'

theorem mergeVersions_go_mem (mine theirs : List Map) (mp : Map) (n v : Nat)
    (hmp : mp ∈ mergeVersions.go mine theirs) (hv : Map.get mp n = some v) :
    (∃ m ∈ mine, Map.get m n = some v) ∨ (∃ t ∈ theirs, Map.get t n = some v) := by
  induction mine generalizing theirs with
  | nil => rw [mergeVersions_go_eq] at hmp; cases theirs <;> cases hmp
  | cons m ms ih =>
    rw [mergeVersions_go_eq] at hmp
    cases theirs with
    | nil => exact Or.inl ⟨mp, hmp, hv⟩
    | cons t ts =>
      rcases List.mem_cons.1 hmp with rfl | hmp
      · rcases foldl_raiseMax_get _ _ _ _ hv with h | h
        · exact Or.inl ⟨m, List.mem_cons_self, h⟩
        · exact Or.inr ⟨t, List.mem_cons_self, mem_bindings.1 h⟩
      · rcases ih ts hmp with ⟨m', hm', h⟩ | ⟨t', ht', h⟩
        · exact Or.inl ⟨m', List.mem_cons_of_mem _ hm', h⟩
        · exact Or.inr ⟨t', List.mem_cons_of_mem _ ht', h⟩

theorem raiseMax_get_other (acc : Map) (p : Nat × Nat) (X : Nat) (h : p.1 ≠ X) :
    Map.get (raiseMax acc p) X = Map.get acc X := by
  unfold raiseMax
  split
  · split
    · rfl
    · rw [get_set, if_neg (fun e => h e.symm)]
  · rw [get_set, if_neg (fun e => h e.symm)]

theorem foldl_raiseMax_get_other (bs : List (Nat × Nat)) (m : Map) (X : Nat) (h : ∀ p ∈ bs, p.1 ≠ X) :
    Map.get (bs.foldl raiseMax m) X = Map.get m X :=
  List.foldlRecOn (motive := fun acc => Map.get acc X = Map.get m X) bs raiseMax rfl
    fun acc ih p hp => (raiseMax_get_other acc p X (h p hp)).trans ih

theorem mergeVersions_go_map {α : Type} (g : Map → α) (mine theirs : List Map)
    (h : ∀ t ∈ theirs, ∀ m, g (t.bindings.foldl raiseMax m) = g m) :
    (mergeVersions.go mine theirs).map g = mine.map g := by
  induction mine generalizing theirs with
  | nil => rw [mergeVersions_go_eq]
  | cons m ms ih =>
    rw [mergeVersions_go_eq]
    cases theirs with
    | nil => rfl
    | cons t ts =>
      simp only [List.map_cons]
      rw [h t List.mem_cons_self, ih ts fun t' ht' => h t' (List.mem_cons_of_mem _ ht')]

/-- `S` over-approximates what the version vectors remember: per-source maxima are stamps in `S`
with the right node id; safe cut-offs are forgiveness of such a stamp or of the default. -/
structure VersInv (F : Nat) (s : OrSwot) (S : Nat → Prop) : Prop where
  maxs : ∀ mp ∈ s.maxs, ∀ n v, Map.get mp n = some v → S v ∧ node v = n
  safe : ∀ n v, Map.get s.safe n = some v →
    ∃ m, (S m ∨ m = pack 0 0 n) ∧ node m = n ∧ v = forgive F m

theorem eq_nil_of_mem_empty {n : Nat} {m : Map} (h : m ∈ (OrSwot.empty n).maxs) : m = [] :=
  (List.mem_replicate.1 h).2

theorem versInv_empty (F n : Nat) (S : Nat → Prop) : VersInv F (OrSwot.empty n) S := by
  constructor
  · intro mp hmp nn v h
    rw [eq_nil_of_mem_empty hmp] at h
    cases h
  · intro nn v h; cases h

theorem versInv_mono {F : Nat} {s : OrSwot} {S S' : Nat → Prop} (h : VersInv F s S)
    (hs : ∀ x, S x → S' x) : VersInv F s S' := by
  constructor
  · intro mp hmp n v hv; exact (h.maxs mp hmp n v hv).imp_left (hs _)
  · intro n v hv
    obtain ⟨m, h1, h2, h3⟩ := h.safe n v hv
    exact ⟨m, h1.imp_left (hs _), h2, h3⟩

theorem versInv_congr {F : Nat} {s s' : OrSwot} {S : Nat → Prop} (hm : s'.maxs = s.maxs)
    (hs : s'.safe = s.safe) (h : VersInv F s S) : VersInv F s' S :=
  ⟨hm ▸ h.maxs, hs ▸ h.safe⟩

theorem versInv_recompute (F : Nat) (s : OrSwot) (S : Nat → Prop) (maxs' : List Map) (nodes : List Nat)
    (hm : ∀ mp ∈ maxs', ∀ n v, Map.get mp n = some v → S v ∧ node v = n)
    (h : VersInv F s S) (hn : ∀ nd ∈ nodes, nd < 256) :
    VersInv F { s with maxs := maxs',
                       safe := nodes.foldl (fun sf nd => computeSafe F maxs' sf nd) s.safe } S := by
  refine ⟨hm, fun n v hv => ?_⟩
  rcases foldl_computeSafe_cases F maxs' nodes s.safe n with ⟨x, xs, hmem, hsv, e⟩ | ⟨_, e⟩
  · cases e.symm.trans hv
    -- the minimum is what one source holds for `n`: a remembered stamp, or the default
    obtain ⟨mp, hmp, hval⟩ := List.mem_map.1 (hsv ▸ minList_mem x xs)
    rw [← hval]
    cases hg : Map.get mp n with
    | none => exact ⟨pack 0 0 n, Or.inr rfl, by rw [pack_zero]; exact (spec_of_lt n (hn n hmem)).2.2.1, rfl⟩
    | some w => exact ⟨w, Or.inl (hm mp hmp n w hg).1, (hm mp hmp n w hg).2, rfl⟩
  · exact h.safe n v (e ▸ hv)

theorem versInv_bumped (F : Nat) (s : OrSwot) (src ts : Nat) (S S' : Nat → Prop) (h : VersInv F s S)
    (hS : ∀ x, S x → S' x) (hts : S' ts) : VersInv F (bumped F s src ts) S' := by
  have h' := versInv_mono h hS
  refine versInv_recompute F s _ _ [node ts] (fun mp hmp n v hv => ?_) h'
    (fun nd hnd => List.mem_singleton.1 hnd ▸ node_lt ts)
  rcases bumped_mem hmp hv with ⟨m, hm, hv⟩ | ⟨rfl, rfl⟩
  · exact h'.maxs m hm n v hv
  · exact ⟨hts, rfl⟩

/-- What a refusal means: a remembered stamp of the same origin whose cut-off lies above `t`. -/
theorem VersInv.before {F : Nat} {s : OrSwot} {S : Nat → Prop} (h : VersInv F s S) {t : Nat}
    (hb : isBefore s.safe t = true) : ∃ m, S m ∧ node m = node t ∧ t < forgive F m := by
  obtain ⟨v, hg, hlt⟩ := isBefore_iff.1 hb
  obtain ⟨m, hm1, hm2, rfl⟩ := h.safe _ _ hg
  rcases hm1 with hm1 | rfl
  · exact ⟨m, hm1, hm2, hlt⟩
  · exact absurd hlt (not_lt_forgive_default F t)

theorem VersInv.before_dts {F : Nat} {s : OrSwot} {S : Nat → Prop} (h : VersInv F s S) (hF : F % 4 = 0)
    {t : Nat} (ht : ValidStamp t) (hb : isBefore s.safe t = true) :
    ∃ m, S m ∧ node m = node t ∧ dts t + F ≤ dts m := by
  obtain ⟨m, hm, hn, hlt⟩ := h.before hb
  exact ⟨m, hm, hn, Nat.le_of_not_lt fun hc => Ts.not_lt_forgive F t m hF ht.1 ht.2 hn hc hlt⟩

theorem not_before_of_window (F : Nat) (s : OrSwot) (S : Nat → Prop) (h : VersInv F s S) (t : Nat)
    (hF : F % 4 = 0) (ht : ValidStamp t)
    (hS : ∀ m, S m → node m = node t → dts m < dts t + F) :
    isBefore s.safe t = false := by
  refine Bool.eq_false_iff.2 fun hb => ?_
  obtain ⟨m, hm, hn, hle⟩ := h.before_dts hF ht hb
  exact Nat.not_lt.2 hle (hS m hm hn)

/-- A stamp that is at least every remembered stamp of its origin is never before the cut-off of that
origin: what holds of every fresh write (clocks issue strictly increasing stamps per origin: C09, C11). -/
theorem fresh_not_before (F : Nat) (s : OrSwot) (S : Nat → Prop) (h : VersInv F s S) (t : Nat)
    (hS : ∀ m, S m → ValidStamp m ∧ (node m = node t → m ≤ t)) : isBefore s.safe t = false := by
  refine Bool.eq_false_iff.2 fun hb => ?_
  obtain ⟨m, hm, hn, hlt⟩ := h.before hb
  obtain ⟨hv, hle⟩ := hS m hm
  exact Nat.lt_irrefl t (Nat.lt_of_lt_of_le hlt (Nat.le_trans (forgive_le F m hv.1 hv.2) (hle hn)))

end Datacake.OrSwot
