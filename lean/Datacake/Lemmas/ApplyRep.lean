/- One operation maps `Rep s A` to `Rep s' (o :: A)` (when the state is sound for the history). -/
import Datacake.Lemmas.Rep
import Datacake.Lemmas.Apply

namespace Datacake.OrSwot
open Datacake.Lww Datacake.Map Datacake.Ts

/-- **applyOp_rep**: applying an operation of the history to a sound state yields the LWW state of
the extended list — whether the operation is accepted (one LWW join) or refused as too old (then it
had been applied before and the join changes nothing). -/
theorem applyOp_rep (F : Nat) (s : OrSwot) (A H : List Op) (so : SrcOp)
    (r : Rep F s A) (snd : Sound s A H) (hH : so.op ∈ H) :
    Rep F (applyOp F s so).1 (so.op :: A) := by
  have hvers : VersInv F (applyOp F s so).1 (Stamps (so.op :: A)) :=
    versInv_applyOp F s so _ _ r.vers (fun _ ⟨o, ho, h⟩ => ⟨o, List.mem_cons_of_mem _ ho, h⟩)
      ⟨so.op, List.mem_cons_self, rfl⟩
  cases hb : isBefore s.safe so.op.ts with
  | true =>
    rw [applyOp_refused F s so hb] at hvers ⊢
    refine ⟨fun k => (r.view k).trans (lww_ext (fun o => ?_) k), r.disj, hvers⟩
    exact (List.mem_cons.trans (or_iff_right_of_imp fun e => e ▸ snd so.op hH hb)).symm
  | false =>
    obtain ⟨h1, h2, _⟩ := applyOp_step F s so r.disj hb
    exact ⟨fun k => by rw [h1 k, lww_cons, r.view], h2, hvers⟩

theorem applyAll_rep (F : Nat) (hF : F % 4 = 0) (H : List Op) (hg : GoodHist H) (hw : WindowH F H)
    (ops : List SrcOp) (hops : ∀ o ∈ ops, o.op ∈ H) (s : OrSwot) (A : List Op) (r : Rep F s A)
    (hA : ∀ o ∈ A, o ∈ H) :
    Rep F (applyAll F s ops) ((ops.map (·.op)).reverse ++ A) ∧
      ∀ o ∈ (ops.map (·.op)).reverse ++ A, o ∈ H := by
  rw [← List.foldl_flip_cons_eq_append]
  exact List.foldl_rel (r := fun s A => Rep F s A ∧ ∀ o ∈ A, o ∈ H) ⟨r, hA⟩ fun o ho s A ⟨r, hA⟩ =>
    ⟨applyOp_rep F s A H o r (sound_of_window hF hg hA hw r.vers) (hops o ho),
     List.forall_mem_cons.2 ⟨hops o ho, hA⟩⟩

end Datacake.OrSwot
