/-
`SafeExact` and `GoodMaxs` (Lemmas/SafeExact.lean) are invariants of `merge` too: `NodeVersions::merge`
raises per-source maxima and then re-runs `compute_safe_last_stamp` for every origin the remote
state mentions; origins it does not mention keep their per-source values and their cut-off.
Together with `safeExact_applyOp` / `safeExact_purge` this makes them invariants of EVERY state that
the public API of `OrSWotSet` can build (insert / delete / purge / merge in any order).
-/
import Datacake.Lemmas.SafeExact
import Datacake.Lemmas.Merge

namespace Datacake.OrSwot
open Datacake.Lww Datacake.Map Datacake.Ts

/-- **safeExact_merge**: merging ANY remote state keeps the safe cut-offs exact. -/
theorem safeExact_merge (F : Nat) (a b : OrSwot) (h : SafeExact F a) : SafeExact F (merge F a b) := by
  obtain ⟨h1, h2⟩ := merge_versions F a b
  refine safeExact_congr F _ _ h1 h2 (safeExact_recompute F a _ (mentioned b.maxs) h ?_ fun X hX =>
    mergeVersions_go_map _ _ _ fun t ht m => foldl_raiseMax_get_other _ m X fun p hp e =>
      hX (List.mem_flatten.2 ⟨_, List.mem_map.2 ⟨t, ht, rfl⟩, List.mem_map.2 ⟨p, hp, e⟩⟩))
  have := congrArg List.length (mergeVersions_go_map (fun _ => ()) a.maxs b.maxs fun _ _ _ => rfl)
  rwa [List.length_map, List.length_map] at this

theorem goodMaxs_merge (F : Nat) (a b : OrSwot) (ha : GoodMaxs a) (hb : GoodMaxs b) : GoodMaxs (merge F a b) := by
  intro m hm X v hv
  rw [(merge_versions F a b).1] at hm
  rcases mergeVersions_go_mem a.maxs b.maxs m X v hm hv with ⟨m', hm', h⟩ | ⟨t, ht, h⟩
  · exact ha m' hm' X v h
  · exact hb t ht X v h

end Datacake.OrSwot
