/- The part of an operation after the version check (`insertCore`, `deleteCore`) is key-local: it
acts on the pair `(entries k, dead k)` of its own key by a pure function (`coreKey`) and touches
nothing else.  Everything the development says about a single operation (LWW step, observational
equivalence, the purge simulation) is then a fact about `coreKey` on a pair of options.  At the end: which tombstones
`purge_old_deletes` keeps. -/
import Datacake.Lemmas.Lww
import Datacake.Lemmas.Assoc

namespace Datacake.OrSwot
open Datacake.Lww Datacake.Map

def cell (s : OrSwot) (k : Nat) : Option Nat × Option Nat := (Map.get s.entries k, Map.get s.dead k)

/-- The record a cell stands for: `view s k = recOf (cell s k)` by definition. -/
def recOf (c : Option Nat × Option Nat) : Option Nat :=
  match c.1 with
  | some e => some (liveRec e)
  | none =>
    match c.2 with
    | some d => some (deadRec d)
    | none => none

def coreOp (isDel : Bool) (s : OrSwot) (k t : Nat) : OrSwot × Bool :=
  match isDel with
  | false => insertCore s k t
  | true => deleteCore s k t

/-- The two kinds mirror each other except at an exact tie with the opposite record, which the
insert wins. -/
def coreKey (isDel : Bool) (t : Nat) (c : Option Nat × Option Nat) : (Option Nat × Option Nat) × Bool :=
  match isDel with
  | false =>
    let write : (Option Nat × Option Nat) × Bool :=
      match c.1 with
      | some v => if v < t then ((some t, none), true) else ((some v, none), false)
      | none => ((some t, none), true)
    match c.2 with
    | some d => if t < d then (c, false) else write
    | none => write
  | true =>
    let write : (Option Nat × Option Nat) × Bool :=
      match c.2 with
      | some v => if v < t then ((none, some t), true) else ((none, some v), false)
      | none => ((none, some t), true)
    match c.1 with
    | some e => if t ≤ e then (c, false) else write
    | none => write

theorem coreOp_spec (isDel : Bool) (s : OrSwot) (k t : Nat) :
    (coreOp isDel s k t).1.maxs = s.maxs ∧ (coreOp isDel s k t).1.safe = s.safe ∧
    (coreOp isDel s k t).2 = (coreKey isDel t (cell s k)).2 ∧
    cell (coreOp isDel s k t).1 k = (coreKey isDel t (cell s k)).1 ∧
    ∀ k', k' ≠ k → cell (coreOp isDel s k t).1 k' = cell s k' := by
  cases isDel
  · unfold coreOp insertCore coreKey cell
    dsimp only
    cases hd : Map.get s.dead k <;> cases he : Map.get s.entries k <;> dsimp only <;>
      (try split) <;> (try split) <;>
      exact ⟨rfl, rfl, rfl, by simp only [get_set, get_erase, hd, he, if_true],
        fun k' hk => by simp only [get_set, get_erase, if_neg hk]⟩
  · unfold coreOp deleteCore coreKey cell
    dsimp only
    cases he : Map.get s.entries k <;> cases hd : Map.get s.dead k <;> dsimp only <;>
      (try split) <;> (try split) <;>
      exact ⟨rfl, rfl, rfl, by simp only [get_set, get_erase, hd, he, if_true],
        fun k' hk => by simp only [get_set, get_erase, if_neg hk]⟩

theorem coreKey_eq (isDel : Bool) (t : Nat) (c : Option Nat × Option Nat)
    (hc : c.1 = none ∨ c.2 = none) :
    coreKey isDel t c =
      if Newer (recOf c) (opRec isDel t) then ((if isDel then (none, some t) else (some t, none)), true)
      else (c, false) := by
  obtain ⟨e, d⟩ := c
  -- insert, then delete, each on the cells (∅, ∅), (∅, d), (e, ∅), (e, d); the last is excluded by `hc`
  cases isDel <;> rcases e with _ | e <;> rcases d with _ | d <;>
    simp only [coreKey, recOf, opRec, newer_some, deadRec_lt_liveRec, liveRec_lt_liveRec,
      deadRec_lt_deadRec, liveRec_lt_deadRec, Bool.false_eq_true, if_false, if_true, ite_not]
  · rfl
  · rcases hc with h | h <;> cases h
  · rfl
  · rcases hc with h | h <;> cases h

theorem recOf_coreKey (isDel : Bool) (t : Nat) (c : Option Nat × Option Nat)
    (hc : c.1 = none ∨ c.2 = none) :
    recOf (coreKey isDel t c).1 = join (recOf c) (opRec isDel t) ∧
    ((coreKey isDel t c).1.1 = none ∨ (coreKey isDel t c).1.2 = none) := by
  rw [coreKey_eq isDel t c hc, join_eq_ite]
  split
  · cases isDel
    · exact ⟨rfl, Or.inr rfl⟩
    · exact ⟨rfl, Or.inl rfl⟩
  · exact ⟨rfl, hc⟩

theorem view_coreOp (isDel : Bool) (s : OrSwot) (k t : Nat) (hd : Disj s) :
    (∀ k', view (coreOp isDel s k t).1 k' =
      if k' = k then join (view s k') (opRec isDel t) else view s k') ∧
    Disj (coreOp isDel s k t).1 ∧
    ((coreOp isDel s k t).2 = true ↔ Newer (view s k) (opRec isDel t)) := by
  obtain ⟨_, _, hbool, hkey, hfr⟩ := coreOp_spec isDel s k t
  obtain ⟨hrec, hdisj⟩ := recOf_coreKey isDel t (cell s k) (hd k)
  refine ⟨fun k' => ?_, fun k' => ?_, ?_⟩
  · show recOf (cell _ k') = if k' = k then join (recOf (cell s k')) _ else recOf (cell s k')
    by_cases hk : k' = k
    · rw [if_pos hk, hk, hkey, hrec]
    · rw [if_neg hk, hfr k' hk]
  · show (cell _ k').1 = none ∨ (cell _ k').2 = none
    by_cases hk : k' = k
    · rw [hk, hkey]; exact hdisj
    · rw [hfr k' hk]; exact hd k'
  · show _ ↔ Newer (recOf (cell s k)) _
    rw [hbool, coreKey_eq isDel t (cell s k) (hd k)]
    split <;> simp [*]

theorem mem_purged (s : OrSwot) (k d : Nat) :
    (k, d) ∈ (purgeOldDeletes s).2 ↔ Map.get s.dead k = some d ∧ isBefore s.safe d = true := by
  unfold purgeOldDeletes
  simp only [List.mem_filter, mem_bindings]

theorem purge_dead_iff (s : OrSwot) (k d : Nat) :
    Map.get (purgeOldDeletes s).1.dead k = some d ↔
      Map.get s.dead k = some d ∧ isBefore s.safe d = false := by
  unfold purgeOldDeletes
  rw [get_eq_aget, ← Storage.mem_iff_aget _ filter_bindings_nodup,
    List.mem_filter, mem_bindings, Bool.not_eq_true']

theorem purge_dead_get (s : OrSwot) (k : Nat) :
    Map.get (purgeOldDeletes s).1.dead k =
      match Map.get s.dead k with
      | some d => if isBefore s.safe d then none else some d
      | none => none := by
  refine Option.ext fun d => ?_
  rw [purge_dead_iff]
  cases hg : Map.get s.dead k with
  | none => simp
  | some d' => cases hb : isBefore s.safe d' <;> simp [hb] <;> (rintro rfl; exact hb)

end Datacake.OrSwot
