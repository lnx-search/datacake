/-
Purging as a simulation (C08, cluster part).

A replica that purges tombstones is related to a *ghost* replica that applied exactly the same
operations and never purged: same live entries, same version bookkeeping, and the ghost's
tombstone map is the real one plus the purged tombstones.  As long as no operation below a
tombstone old enough to be purged is applied afterwards on its key (`hl` below — what timeliness
provides), the two stay related for ever, so the live documents are the same.

`B` is a bound (`now + skew`) such that a tombstone `d` is only ever purged when
`dts d + F ≤ B`; it only grows.
-/
import Datacake.Lemmas.ApplyRep

namespace Datacake.Purge
open Datacake.Lww Datacake.OrSwot Datacake.Ts Datacake.Map

/-- The ghost's tombstones are the real ones plus purged ones (on keys the real replica holds
nothing for). -/
def DeadRel (F B : Nat) (s g : OrSwot) : Prop :=
  ∀ k, Map.get g.dead k = Map.get s.dead k ∨
    (Map.get s.dead k = none ∧ Map.get s.entries k = none ∧ ∃ d, Map.get g.dead k = some d ∧ dts d + F ≤ B)

structure Sim (F B : Nat) (s g : OrSwot) : Prop where
  entries : ∀ k, Map.get g.entries k = Map.get s.entries k
  maxs : g.maxs = s.maxs
  safe : g.safe = s.safe
  dead : DeadRel F B s g

theorem sim_refl (F B : Nat) (s : OrSwot) : Sim F B s s := ⟨fun _ => rfl, rfl, rfl, fun _ => Or.inl rfl⟩

theorem sim_mono (F B B' : Nat) (s g : OrSwot) (h : Sim F B s g) (hb : B ≤ B') : Sim F B' s g := by
  refine ⟨h.entries, h.maxs, h.safe, ?_⟩
  intro k
  rcases h.dead k with h1 | ⟨h1, h2, d, h3, h4⟩
  · exact Or.inl h1
  · exact Or.inr ⟨h1, h2, d, h3, Nat.le_trans h4 hb⟩

/-- `Sim` at one key, on bare cells, so that `coreKey_sim` can be stated of `coreKey`: the clause of
`DeadRel` (a fixed definition over states, hence spelt again) with the equality of the entries.
`⟨h.entries k, h.dead k⟩ : CellRel F B (cell s k) (cell g k)` for `h : Sim F B s g`. -/
def CellRel (F B : Nat) (cs cg : Option Nat × Option Nat) : Prop :=
  cg.1 = cs.1 ∧ (cg.2 = cs.2 ∨ (cs.2 = none ∧ cs.1 = none ∧ ∃ d, cg.2 = some d ∧ dts d + F ≤ B))

/-- An operation that is not below a tombstone of its key old enough to be purged acts alike on the
two cells: on an empty cell and on a cell holding only a tombstone `d ≤ t` both kinds write the same
record. -/
theorem coreKey_sim (F B : Nat) (isDel : Bool) (t : Nat) (cs cg : Option Nat × Option Nat)
    (h : CellRel F B cs cg) (hl : ∀ d, cg.2 = some d → dts d + F ≤ B → d ≤ t) :
    CellRel F B (coreKey isDel t cs).1 (coreKey isDel t cg).1 := by
  obtain ⟨e, ds⟩ := cs
  obtain ⟨e', dg⟩ := cg
  obtain ⟨he, hd⟩ := h
  dsimp only at he hd hl
  subst he
  rcases hd with rfl | ⟨rfl, rfl, d, rfl, hB⟩
  · exact ⟨rfl, Or.inl rfl⟩
  · have hle := hl d rfl hB
    have : (coreKey isDel t (none, some d)).1 = (coreKey isDel t (none, none)).1 := by
      cases isDel
      · simp only [coreKey, if_neg (Nat.not_lt.2 hle)]
      · simp only [coreKey]
        split
        · rfl
        · rw [Nat.le_antisymm hle (Nat.le_of_not_lt ‹_›)]
    rw [this]
    exact ⟨rfl, Or.inl rfl⟩

theorem sim_coreOp (F B : Nat) (isDel : Bool) (s g : OrSwot) (k ts : Nat) (h : Sim F B s g)
    (hl : ∀ d, Map.get g.dead k = some d → dts d + F ≤ B → d ≤ ts) :
    Sim F B (coreOp isDel s k ts).1 (coreOp isDel g k ts).1 := by
  obtain ⟨sm, ss, _, skey, sfr⟩ := coreOp_spec isDel s k ts
  obtain ⟨gm, gs, _, gkey, gfr⟩ := coreOp_spec isDel g k ts
  have hc : ∀ k', CellRel F B (cell (coreOp isDel s k ts).1 k') (cell (coreOp isDel g k ts).1 k') := by
    intro k'
    by_cases hk : k' = k
    · rw [hk, skey, gkey]
      exact coreKey_sim F B isDel ts _ _ ⟨h.entries k, h.dead k⟩ hl
    · rw [sfr k' hk, gfr k' hk]; exact ⟨h.entries k', h.dead k'⟩
  exact ⟨fun k' => (hc k').1, by rw [gm, sm, h.maxs], by rw [gs, ss, h.safe], fun k' => (hc k').2⟩

theorem sim_applyOp (F B : Nat) (s g : OrSwot) (so : SrcOp) (h : Sim F B s g)
    (hl : ∀ d, Map.get g.dead so.op.key = some d → dts d + F ≤ B → d ≤ so.op.ts) :
    Sim F B (applyOp F s so).1 (applyOp F g so).1 := by
  cases hb : isBefore s.safe so.op.ts with
  | true => rw [applyOp_refused F s so hb, applyOp_refused F g so (h.safe ▸ hb)]; exact h
  | false =>
    rw [applyOp_accepted F s so hb, applyOp_accepted F g so (h.safe ▸ hb)]
    -- the bumped vectors depend on `maxs` and `safe` only
    refine sim_coreOp F B _ _ _ _ _ ⟨h.entries, ?_, ?_, h.dead⟩ hl <;> simp only [bumped, h.maxs, h.safe]

theorem sim_purge (F B : Nat) (s g : OrSwot) (h : Sim F B s g) (hdisj : Disj g)
    (hold : ∀ k d, Map.get s.dead k = some d → isBefore s.safe d = true → dts d + F ≤ B) :
    Sim F B (purgeOldDeletes s).1 g := by
  refine ⟨h.entries, h.maxs, h.safe, fun k => ?_⟩
  show _ ∨ (_ ∧ Map.get s.entries k = none ∧ _)
  rw [purge_dead_get]
  rcases h.dead k with h1 | ⟨h1, h2, d, h3, h4⟩
  · rw [h1]
    cases hs : Map.get s.dead k with
    | none => exact Or.inl rfl
    | some d =>
      dsimp only
      cases hb : isBefore s.safe d with
      | false => exact Or.inl rfl
      | true =>
        -- purged now: from the first alternative to the second
        exact Or.inr ⟨rfl, (h.entries k).symm.trans (hdisj.entries_none (h1.trans hs)), d, rfl, hold k d hs hb⟩
  · rw [h1]
    exact Or.inr ⟨rfl, h2, d, h3, h4⟩

theorem Sim.hasRec {F B : Nat} {s g : OrSwot} (h : Sim F B s g) {k t : Nat} {isDel : Bool}
    (hr : HasRec s k t isDel) : HasRec g k t isDel := by
  cases isDel
  · exact (h.entries k).trans hr
  · rcases h.dead k with h1 | ⟨h1, _⟩
    · exact h1.trans hr
    · exact nomatch h1.symm.trans hr

/-- The purging replica `s`, having applied `A`, is simulated by a never-purging ghost that
represents `A`; everything applied belongs to the history and is not from the future (`B`).
(`N` for node: `C08b.CInv` asks it of every node of a cluster.) -/
structure NInv (F B : Nat) (H : List Op) (s : OrSwot) (A : List Op) : Prop where
  ex : ∃ g, Rep F g A ∧ Sim F B s g
  sub : ∀ o ∈ A, o ∈ H ∧ dts o.ts ≤ B

/-- Timeliness, seen from one replica at one moment: every operation of the history that is at
least one forgiveness period older than the bound has been applied here. -/
def Timely (F B : Nat) (H A : List Op) : Prop := ∀ o ∈ H, dts o.ts + F ≤ B → o ∈ A

/-- No delete of the history on `o`'s key that is old enough to have been purged is newer than
`o`. -/
def Fresh (F B : Nat) (H : List Op) (o : Op) : Prop :=
  ∀ od ∈ H, od.key = o.key → od.isDel = true → dts od.ts + F ≤ B → od.ts ≤ o.ts

theorem ninv_mono (F B B' : Nat) (H : List Op) (s : OrSwot) (A : List Op) (h : NInv F B H s A)
    (hb : B ≤ B') : NInv F B' H s A := by
  obtain ⟨⟨g, hr, hs⟩, hsub⟩ := h
  exact ⟨⟨g, hr, sim_mono F B B' s g hs hb⟩, fun o ho => ⟨(hsub o ho).1, Nat.le_trans (hsub o ho).2 hb⟩⟩

theorem ninv_empty (F B n : Nat) (H : List Op) : NInv F B H (OrSwot.empty n) [] :=
  ⟨⟨OrSwot.empty n, rep_empty F n, sim_refl F B _⟩, fun _ h => by cases h⟩

theorem sound_of_timely (F B : Nat) (hF : F % 4 = 0) (H : List Op) (hg : GoodHist H) (g : OrSwot)
    (A : List Op) (hr : Rep F g A) (hsub : ∀ o ∈ A, o ∈ H ∧ dts o.ts ≤ B) (ht : Timely F B H A) :
    Sound g A H := by
  intro o ho hb
  obtain ⟨_, ⟨o', ho', rfl⟩, _, hle⟩ := hr.vers.before_dts hF (hg.valid o ho) hb
  exact ht o ho (Nat.le_trans hle (hsub o' ho').2)

theorem ninv_apply (F B : Nat) (hF : F % 4 = 0) (H : List Op) (hg : GoodHist H) (s : OrSwot)
    (A : List Op) (h : NInv F B H s A) (ht : Timely F B H A) (src : Nat) (o : Op) (hoH : o ∈ H)
    (hoB : dts o.ts ≤ B) (hfresh : Fresh F B H o) :
    NInv F B H (applyOp F s ⟨src, o⟩).1 (o :: A) := by
  obtain ⟨⟨g, hr, hs⟩, hsub⟩ := h
  have hsound := sound_of_timely F B hF H hg g A hr hsub ht
  refine ⟨⟨(applyOp F g ⟨src, o⟩).1, applyOp_rep F g A H ⟨src, o⟩ hr hsound hoH, ?_⟩,
    List.forall_mem_cons.2 ⟨⟨hoH, hoB⟩, hsub⟩⟩
  -- a tombstone of the ghost is a delete of the history
  exact sim_applyOp F B s g ⟨src, o⟩ hs fun d hd hold =>
    hfresh ⟨o.key, d, true⟩ (hsub _ (op_of_rec hr true hd)).1 rfl rfl hold

theorem ninv_purge (F B : Nat) (hF : F % 4 = 0) (H : List Op) (hg : GoodHist H) (s : OrSwot)
    (A : List Op) (h : NInv F B H s A) : NInv F B H (purgeOldDeletes s).1 A := by
  obtain ⟨⟨g, hr, hs⟩, hsub⟩ := h
  refine ⟨⟨g, hr, sim_purge F B s g hs hr.disj ?_⟩, hsub⟩
  intro k d hd hb
  have hval := hg.valid _ (hsub _ (op_of_rec hr true (hs.hasRec hd))).1
  rw [← hs.safe] at hb
  obtain ⟨_, ⟨o', ho', rfl⟩, _, hle⟩ := hr.vers.before_dts hF hval hb
  exact Nat.le_trans hle (hsub o' ho').2

end Datacake.Purge
