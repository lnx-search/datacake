/- The applied-set representation of replica states: a state *represents* a list of
operations `A` when its per-key records are the LWW records of `A` and its version vectors only
remember stamps of `A`.  Every operation of the code maps `Rep s A` to `Rep s' A'`, `A'` being `A` with what it applied. -/
import Datacake.Lemmas.OrswotVersions

namespace Datacake.OrSwot
open Datacake.Lww Datacake.Map Datacake.Ts

def Stamps (A : List Op) : Nat → Prop := fun x => ∃ o ∈ A, o.ts = x

/-- State `s` represents the applied operations `A`. -/
structure Rep (F : Nat) (s : OrSwot) (A : List Op) : Prop where
  view : ∀ k, view s k = lww A k
  disj : Disj s
  vers : VersInv F s (Stamps A)

theorem rep_empty (F n : Nat) : Rep F (OrSwot.empty n) [] :=
  ⟨fun _ => rfl, fun _ => Or.inl rfl, versInv_empty F n _⟩

def HasRec (b : OrSwot) (k t : Nat) (isDel : Bool) : Prop :=
  if isDel then Map.get b.dead k = some t else Map.get b.entries k = some t

theorem hasRec_iff_view {b : OrSwot} (hd : Disj b) {k t : Nat} {isDel : Bool} :
    HasRec b k t isDel ↔ view b k = some (rank ⟨k, t, isDel⟩) := by
  unfold HasRec rank
  rw [view_of_gets]
  rcases hd k with h | h <;> rw [h] <;> cases isDel <;> cases Map.get _ k <;>
    simp [liveRec_inj, deadRec_inj, deadRec_ne_liveRec, Ne.symm deadRec_ne_liveRec]

theorem op_of_rec {F : Nat} {b : OrSwot} {B : List Op} (rb : Rep F b B) {k t : Nat} (isDel : Bool)
    (h : HasRec b k t isDel) : (⟨k, t, isDel⟩ : Op) ∈ B := by
  rw [hasRec_iff_view rb.disj, rb.view] at h
  obtain ⟨o, ho, hk, hr⟩ := lww_mem h
  exact op_eq_of_rank (o' := ⟨k, t, isDel⟩) hk hr ▸ ho

/-- `H`-soundness of a state: whatever it would refuse as too old has in fact been applied. -/
def Sound (s : OrSwot) (A H : List Op) : Prop :=
  ∀ o ∈ H, isBefore s.safe o.ts = true → o ∈ A

/-- Distinct stamps are not asked for: several keys may share a stamp, as
the bulk operations of the store do, and for `Rep` and `merge` two different operations on the same
key with the same stamp are resolved by "insert wins the tie".  Only where an operation must be
recognised by its key and stamp is `C05.KeyStampDistinct` a further hypothesis
(`C05.exchanged_dominates`, `C01d.knows_of_not_willApply`). -/
structure GoodHist (H : List Op) : Prop where
  valid : ∀ o ∈ H, ValidStamp o.ts

/-- First alternative of the precondition: all stamps of one origin lie within one forgiveness
period. -/
def WindowH (F : Nat) (H : List Op) : Prop :=
  ∀ a ∈ H, ∀ b ∈ H, node a.ts = node b.ts → dts a.ts < dts b.ts + F

/-- Second alternative: the replica has applied a gap-free prefix of every origin's operations. -/
def DownClosed (A H : List Op) : Prop :=
  ∀ o ∈ A, ∀ o' ∈ H, node o'.ts = node o.ts → o'.ts ≤ o.ts → o' ∈ A

theorem downClosed_append (A B H : List Op) (ha : DownClosed A H) (hb : DownClosed B H) :
    DownClosed (A ++ B) H := by
  intro o ho o' ho' hn hle
  rcases List.mem_append.1 ho with h | h
  · exact List.mem_append_left _ (ha o h o' ho' hn hle)
  · exact List.mem_append_right _ (hb o h o' ho' hn hle)

theorem sound_of_window {F : Nat} (hF : F % 4 = 0) {s : OrSwot} {A H : List Op} (hg : GoodHist H)
    (hsub : ∀ o ∈ A, o ∈ H) (hw : WindowH F H) (hv : VersInv F s (Stamps A)) : Sound s A H := by
  -- under the window no operation of `H` is ever refused: there is nothing to be sound about
  intro o ho hb
  exact nomatch (not_before_of_window F s (Stamps A) hv o.ts hF (hg.valid o ho)
    fun _ ⟨o', ho', hm⟩ hn => hm ▸ hw o' (hsub o' ho') o ho (hm ▸ hn)).symm.trans hb

theorem sound_of_downClosed {F : Nat} {s : OrSwot} {A H : List Op} (hg : GoodHist H)
    (hsub : ∀ o ∈ A, o ∈ H) (hdc : DownClosed A H) (hv : VersInv F s (Stamps A)) : Sound s A H := by
  intro o ho hb
  obtain ⟨_, ⟨o', ho', rfl⟩, hn, hlt⟩ := hv.before hb
  have hval := hg.valid o' (hsub o' ho')
  exact hdc o' ho' o ho hn.symm
    (Nat.le_of_lt (Nat.lt_of_lt_of_le hlt (forgive_le F o'.ts hval.1 hval.2)))

end Datacake.OrSwot
