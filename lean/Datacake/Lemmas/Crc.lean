/- CRC-32: every single-bit change of the input changes the register, for every length.
An input bit is added to the register and the register stepped once; the step `step0` is linear over
GF(2) and maps only `0` to `0` (bit 31 of `POLY` is set), so a difference in the register never dies;
a flipped input bit puts the difference `step0 1 = POLY` there. -/
import Datacake.Model.Rpc

namespace Datacake.Rpc

def step0 (d : BitVec 32) : BitVec 32 := crcBit d false

def iter0 : Nat → BitVec 32 → BitVec 32
  | 0, d => d
  | n + 1, d => iter0 n (step0 d)

theorem step0_eq (d : BitVec 32) :
    step0 d = if d.getLsbD 0 then (d >>> 1) ^^^ POLY else d >>> 1 := by
  unfold step0 crcBit; simp

theorem crcBit_eq (r : BitVec 32) (b : Bool) : crcBit r b = step0 (r ^^^ if b then 1#32 else 0#32) := by
  rw [step0_eq]; rfl

theorem step0_xor (x y : BitVec 32) : step0 (x ^^^ y) = step0 x ^^^ step0 y := by
  have hP : ∀ a b : BitVec 32, a ^^^ POLY ^^^ (b ^^^ POLY) = a ^^^ b := by
    intro a b
    rw [BitVec.xor_assoc, BitVec.xor_comm b, ← BitVec.xor_assoc POLY, BitVec.xor_self, BitVec.zero_xor]
  simp only [step0_eq, BitVec.getLsbD_xor, BitVec.ushiftRight_xor_distrib]
  cases x.getLsbD 0 <;> cases y.getLsbD 0 <;> simp [hP, BitVec.xor_assoc, BitVec.xor_comm POLY]

theorem crcBit_xor (r d : BitVec 32) (b : Bool) : crcBit (r ^^^ d) b = crcBit r b ^^^ step0 d := by
  rw [crcBit_eq, crcBit_eq, ← step0_xor, BitVec.xor_assoc, BitVec.xor_comm d, ← BitVec.xor_assoc]

theorem crcBit_flip (r : BitVec 32) (b : Bool) : crcBit r (!b) = crcBit r b ^^^ POLY := by
  have h1 : step0 1#32 = POLY := by decide
  rw [crcBit_eq, crcBit_eq, ← h1, ← step0_xor, BitVec.xor_assoc]
  cases b <;> rfl

theorem step0_eq_zero (d : BitVec 32) (h : step0 d = 0#32) : d = 0#32 := by
  rw [step0_eq] at h
  cases hl : d.getLsbD 0 with
  | true =>
    -- bit 31 of the result is bit 31 of POLY = true
    rw [hl, if_pos rfl] at h
    have := congrArg (·.getLsbD 31) h
    simp [POLY] at this
  | false =>
    rw [hl, if_neg (by decide)] at h
    apply BitVec.eq_of_getLsbD_eq
    intro i hi
    cases i with
    | zero => simpa using hl
    | succ j =>
      have := congrArg (·.getLsbD j) h
      simpa [Nat.add_comm] using this

theorem iter0_ne_zero (n : Nat) (d : BitVec 32) (h : d ≠ 0#32) : iter0 n d ≠ 0#32 := by
  induction n generalizing d with
  | zero => exact h
  | succ n ih => exact ih _ (fun h0 => h (step0_eq_zero d h0))

theorem crcRaw_xor (r d : BitVec 32) (bits : List Bool) :
    crcRaw (r ^^^ d) bits = crcRaw r bits ^^^ iter0 bits.length d := by
  induction bits generalizing r d with
  | nil => rfl
  | cons b bs ih => rw [crcRaw, List.foldl_cons, crcBit_xor, ← crcRaw, ih]; rfl

theorem crcRaw_flip_ne (r : BitVec 32) (pre post : List Bool) (b : Bool) :
    crcRaw r (pre ++ (!b) :: post) ≠ crcRaw r (pre ++ b :: post) := by
  simp only [crcRaw, List.foldl_append, List.foldl_cons]
  rw [crcBit_flip]
  intro h
  have hx := crcRaw_xor (crcBit (pre.foldl crcBit r) b) POLY post
  rw [crcRaw, crcRaw, h] at hx
  exact iter0_ne_zero _ _ (by decide) ((BitVec.xor_right_inj _).1 (hx.symm.trans BitVec.xor_zero.symm))

end Datacake.Rpc
