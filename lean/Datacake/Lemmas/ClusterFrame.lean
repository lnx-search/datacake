/-
What the primitives of the cluster model (`Model/Cluster.lean`) do, node by node: `setNode`, `touch`
and `bump` as equations on `getNode`, and a request handled at a node (`applyAt`) as ONE call of a
keyspace handler of `Model/Keyspace.lean` on that node's keyspace, every other node untouched.
-/
import Datacake.Lemmas.Handlers
import Datacake.Model.Cluster

namespace Datacake.Cluster
open Datacake.OrSwot Datacake.Keyspace Datacake.Storage

theorem getNode_setNode (c : Cluster) (i x : Nat) (n : CNode) :
    getNode (setNode c i n) x = if x = i ∧ i < c.nodes.length then n else getNode c x := by
  unfold getNode setNode List.getD
  rw [List.getElem?_set]
  by_cases hx : i = x
  · subst hx
    by_cases hl : i < c.nodes.length <;> simp [hl]
  · simp [hx, Ne.symm hx]

theorem setNode_length (c : Cluster) (i : Nat) (n : CNode) : (setNode c i n).nodes.length = c.nodes.length := by
  simp [setNode]

theorem getNode_touch (c : Cluster) (i x : Nat) :
    getNode (touch c i) x =
      if x = i ∧ i < c.nodes.length ∧ (getNode c i).exists_ = false then
        { getNode c i with exists_ := true, change := c.clockTick }
      else getNode c x := by
  unfold touch
  simp only []
  by_cases h : (getNode c i).exists_ = true
  · simp [h]
  · rw [if_neg h]
    exact (getNode_setNode c i x _).trans (by simp [h])

theorem touch_length (c : Cluster) (i : Nat) : (touch c i).nodes.length = c.nodes.length := by
  unfold touch
  simp only []
  split
  · rfl
  · exact setNode_length c i _

theorem getNode_bump (c : Cluster) (i x : Nat) :
    getNode (bump c i) x =
      if x = i ∧ i < c.nodes.length then { getNode c i with change := c.clockTick } else getNode c x :=
  getNode_setNode c i x _

theorem touch_fields (c : Cluster) (i x : Nat) :
    (getNode (touch c i) x).ks = (getNode c x).ks ∧ (getNode (touch c i) x).failNext = (getNode c x).failNext ∧
    (getNode (touch c i) x).tracker = (getNode c x).tracker := by
  rw [getNode_touch]
  split
  · next h => rw [h.1]; exact ⟨rfl, rfl, rfl⟩
  · exact ⟨rfl, rfl, rfl⟩

structure OnlyAt (j : Nat) (c c' : Cluster) : Prop where
  length : c'.nodes.length = c.nodes.length
  other : ∀ x, x ≠ j → getNode c' x = getNode c x

theorem OnlyAt.refl (j : Nat) (c : Cluster) : OnlyAt j c c := ⟨rfl, fun _ _ => rfl⟩

theorem OnlyAt.trans {j : Nat} {c c' c'' : Cluster} (h1 : OnlyAt j c c') (h2 : OnlyAt j c' c'') : OnlyAt j c c'' :=
  ⟨h2.length.trans h1.length, fun x hx => (h2.other x hx).trans (h1.other x hx)⟩

theorem setNode_only (c : Cluster) (i : Nat) (n : CNode) : OnlyAt i c (setNode c i n) :=
  ⟨setNode_length c i n, fun x hx => by simp [getNode_setNode, hx]⟩

theorem touch_only (c : Cluster) (i : Nat) : OnlyAt i c (touch c i) :=
  ⟨touch_length c i, fun x hx => by simp [getNode_touch, hx]⟩

theorem bump_only (c : Cluster) (i : Nat) : OnlyAt i c (bump c i) :=
  ⟨setNode_length c i _, (setNode_only c i _).other⟩

/-- `fail` is the node's pending storage fault (a failing bulk call has written nothing). -/
def handleAt (n : Node) (src : Nat) (fail : Bool) : Issued → Node × Out
  | .put d => onSet Cluster.F n src d fail
  | .del id ts => onDel Cluster.F n src id ts fail
  | .mput ds => onMultiSet Cluster.F n src ds (if fail then some [] else none)
  | .mdel ds => onMultiDel Cluster.F n src ds (if fail then some [] else none)

def reqOf (src : Nat) : Issued → C02.Req
  | .put d => .set src d false
  | .del id ts => .del src id ts false
  | .mput ds => .mset src ds none
  | .mdel ds => .mdel src ds none

theorem handleAt_working (n : Node) (src : Nat) (iss : Issued) :
    handleAt n src false iss = (C02.handle Cluster.F n (reqOf src iss), .ok) := by
  cases iss with
  | put _ | del _ _ => exact Prod.ext rfl (by simp [handleAt, onSet_eq, onDel_eq, onOne_snd])
  | mput _ | mdel _ => rfl

theorem handleAt_fault (n : Node) (src : Nat) (iss : Issued) : (handleAt n src true iss).1 = n := by
  cases iss with
  | put _ | del _ _ => simp [handleAt, onSet_eq, onDel_eq, onOne_fst]
  | mput _ | mdel _ =>
    simp [handleAt, onMultiSet, onMultiSetCore, onMultiDel, onMultiDelCore, pick_nil, filter_false]

theorem handleAt_fault_ok (c : Cluster) (t src : Nat) (iss : Issued) :
    ((handleAt (getNode c t).ks src true iss).2 == .ok) = !callsStorage c t iss := by
  cases iss with
  | put _ | del _ _ =>
    simp only [handleAt, onSet_eq, onDel_eq, onOne_snd, callsStorage]
    cases willApply (getNode c t).ks.set _ _ <;> rfl
  | mput _ | mdel _ => rfl

theorem applyAt_cases (c : Cluster) (i src : Nat) (iss : Issued) :
    let r := handleAt (getNode c i).ks src (getNode c i).failNext iss
    let c1 := setNode (touch c i) i { getNode (touch c i) i with ks := r.1, failNext := false }
    (callsStorage c i iss = false ∧ r = ((getNode c i).ks, .ok) ∧ applyAt c i src iss = (touch c i, true)) ∨
    (callsStorage c i iss = true ∧
      (applyAt c i src iss = (c1, r.2 == .ok) ∨ applyAt c i src iss = (bump c1 i, r.2 == .ok))) := by
  obtain ⟨hk, hf, _⟩ := touch_fields c i i
  unfold applyAt handleAt callsStorage
  cases iss with
  | put _ | del _ _ =>
    simp only [hk, hf]
    cases hw : willApply (getNode c i).ks.set _ _
    · exact Or.inl ⟨rfl, by simp [onSet, onDel, hw], rfl⟩
    · refine Or.inr ⟨rfl, ?_⟩
      simp only [Bool.not_true, Bool.false_eq_true, if_false]
      split
      · next hb => exact Or.inr (by rw [hb])
      · next hb => exact Or.inl (by rw [Bool.eq_false_iff.2 hb])
  | mput _ | mdel _ => exact Or.inr ⟨rfl, Or.inr (by simp only [hk, hf])⟩

theorem applyAt_only (c : Cluster) (i src : Nat) (iss : Issued) : OnlyAt i c (applyAt c i src iss).1 := by
  have hw : ∀ n, OnlyAt i c (setNode (touch c i) i n) := fun n => (touch_only c i).trans (setNode_only _ i n)
  rcases applyAt_cases c i src iss with ⟨_, _, e⟩ | ⟨_, e | e⟩ <;> rw [e]
  · exact touch_only c i
  · exact hw _
  · exact (hw _).trans (bump_only _ i)

theorem hangAt_only (c : Cluster) (t : Nat) (iss : Issued) : OnlyAt t c (hangAt c t iss) :=
  (applyAt_only c t 0 iss).trans (setNode_only _ t _)

theorem applyAt_snd (c : Cluster) (i src : Nat) (iss : Issued) :
    (applyAt c i src iss).2 = ((handleAt (getNode c i).ks src (getNode c i).failNext iss).2 == .ok) := by
  rcases applyAt_cases c i src iss with ⟨_, h, e⟩ | ⟨_, e | e⟩ <;> rw [e]
  rw [h]
  rfl

theorem applyAt_self (c : Cluster) (i src : Nat) (iss : Issued) (h : i < c.nodes.length) :
    (getNode (applyAt c i src iss).1 i).ks = (handleAt (getNode c i).ks src (getNode c i).failNext iss).1 ∧
    (getNode (applyAt c i src iss).1 i).failNext = ((getNode c i).failNext && !callsStorage c i iss) ∧
    (getNode (applyAt c i src iss).1 i).tracker = (getNode c i).tracker := by
  have h0 : i < (touch c i).nodes.length := touch_length c i ▸ h
  obtain ⟨hk, hf, ht⟩ := touch_fields c i i
  rcases applyAt_cases c i src iss with ⟨hc, hr, e⟩ | ⟨hc, e | e⟩ <;> rw [e, hc]
  · rw [hr]
    exact ⟨hk, by simp [hf], ht⟩
  · rw [getNode_setNode, if_pos ⟨rfl, h0⟩]
    exact ⟨rfl, by simp, ht⟩
  · rw [getNode_bump, if_pos ⟨rfl, by rw [setNode_length]; exact h0⟩, getNode_setNode, if_pos ⟨rfl, h0⟩]
    exact ⟨rfl, by simp, ht⟩

structure KsUpd (j : Nat) (k : Node) (c c' : Cluster) : Prop extends OnlyAt j c c' where
  ks : (getNode c' j).ks = k

theorem KsUpd.refl (j : Nat) (c : Cluster) : KsUpd j (getNode c j).ks c c := ⟨OnlyAt.refl j c, rfl⟩

theorem KsUpd.trans {j : Nat} {k k' : Node} {c c' c'' : Cluster} (h1 : KsUpd j k c c') (h2 : KsUpd j k' c' c'') :
    KsUpd j k' c c'' :=
  ⟨h1.toOnlyAt.trans h2.toOnlyAt, h2.ks⟩

theorem KsUpd.ks_eq {j : Nat} {k : Node} {c c' : Cluster} (h : KsUpd j k c c') (x : Nat) :
    (getNode c' x).ks = if x = j then k else (getNode c x).ks := by
  split
  · next hx => rw [hx, h.ks]
  · next hx => rw [h.other x hx]

theorem KsUpd.same {j : Nat} {c c' : Cluster} (h : KsUpd j (getNode c j).ks c c') (x : Nat) :
    (getNode c' x).ks = (getNode c x).ks := by
  rw [h.ks_eq x]
  split
  · next hx => rw [hx]
  · rfl

theorem touch_upd (c : Cluster) (j : Nat) : KsUpd j (getNode c j).ks c (touch c j) :=
  ⟨touch_only c j, (touch_fields c j j).1⟩

theorem setNode_upd (c : Cluster) (j : Nat) (n : CNode) (h : j < c.nodes.length) : KsUpd j n.ks c (setNode c j n) :=
  ⟨setNode_only c j n, by simp [getNode_setNode, h]⟩

/-- The last step of `repair`: node `j`'s tracker is written, or not; its keyspace is not touched. -/
theorem KsUpd.setTracker {α : Type} {j : Nat} {k : Node} {c c' : Cluster} (H : KsUpd j k c c') (hj : j < c.nodes.length)
    (b : Bool) (tr : List (Option Nat)) (o₁ o₂ : α) :
    KsUpd j k c (if b = true then (setNode c' j { getNode c' j with tracker := tr }, o₁) else (c', o₂)).1 := by
  cases b
  · exact H
  · exact H.trans (H.ks ▸ setNode_upd c' j { getNode c' j with tracker := tr } (H.length ▸ hj))

/-- What node `j` of `c` made of a request, or of one half of an exchange: `r` is the new cluster and
whether the handler returned `Ok`: with no fault pending it did (`ok`); if it did, a pending fault was
not consumed (`fault`, the refused single write that makes no storage call). -/
structure Handled (j : Nat) (k : Node) (c : Cluster) (r : Cluster × Bool) : Prop extends KsUpd j k c r.1 where
  ok : (getNode c j).failNext = false → r.2 = true
  fault : r.2 = true → (getNode r.1 j).failNext = (getNode c j).failNext
  tracker : (getNode r.1 j).tracker = (getNode c j).tracker

theorem Handled.none (j : Nat) (c : Cluster) : Handled j (getNode c j).ks c (c, true) :=
  ⟨KsUpd.refl j c, fun _ => rfl, fun _ => rfl, rfl⟩

theorem applyAt_handled (c : Cluster) (i src : Nat) (iss : Issued) (h : i < c.nodes.length) :
    Handled i (handleAt (getNode c i).ks src (getNode c i).failNext iss).1 c (applyAt c i src iss) := by
  obtain ⟨hk, hf, ht⟩ := applyAt_self c i src iss h
  refine ⟨⟨applyAt_only c i src iss, hk⟩, ?_, ?_, ht⟩
  · intro h0
    rw [applyAt_snd, h0, handleAt_working]
    rfl
  · rw [applyAt_snd, hf]
    cases (getNode c i).failNext
    · simp
    · rw [handleAt_fault_ok]; simp

/-- The second request (`r₂`) is handled only when the first returned `Ok`; when it did not, it met the
pending fault, and the second would have changed nothing either. -/
theorem Handled.seq {j src : Nat} {k₁ : Node} {c : Cluster} {r₁ r₂ : Cluster × Bool} {q : Issued} (H₁ : Handled j k₁ c r₁)
    (H₂ : Handled j (handleAt (getNode r₁.1 j).ks src (getNode r₁.1 j).failNext q).1 r₁.1 r₂) :
    KsUpd j (handleAt k₁ src (getNode c j).failNext q).1 c
      (if r₁.2 = true then (r₂.1, r₁.2, r₂.2) else (r₁.1, false, false)).1 := by
  cases h : r₁.2 with
  | false =>
    cases hf : (getNode c j).failNext
    · rw [H₁.ok hf] at h; cases h
    · rw [handleAt_fault]; exact H₁.toKsUpd
  | true =>
    rw [H₁.ks, H₁.fault h] at H₂
    exact H₁.toKsUpd.trans H₂.toKsUpd

end Datacake.Cluster
