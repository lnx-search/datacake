/- The association lists of `Model/Storage.lean` as finite maps: what `aget` reads after `aset` /
`aerase`, what "one entry per key" (`(m.map (·.1)).Nodup`) gives, and that both updates keep it; `DataOk`
of a keyspace record and the three record updates that keep it. -/
import Datacake.Model.Storage
import Datacake.Basic.Map

namespace Datacake.Storage

variable {α : Type}

theorem aget_aerase (m : List (Nat × α)) (k k' : Nat) :
    aget (aerase m k) k' = if k' = k then none else aget m k' := by
  induction m with
  | nil => simp [aerase, aget]
  | cons p ps ih =>
    unfold aerase at ih ⊢
    grind [aget]

theorem aget_aset (m : List (Nat × α)) (k : Nat) (v : α) (k' : Nat) :
    aget (aset m k v) k' = if k' = k then some v else aget m k' := by
  by_cases h : k' = k
  · simp [aset, aget, h]
  · simp [aset, aget, aget_aerase, h, Ne.symm h]

theorem aget_foldl_aerase {β : Type} (f : β → Nat) (l : List β) (m : List (Nat × α)) (k : Nat) :
    aget (l.foldl (fun m x => aerase m (f x)) m) k = if k ∈ l.map f then none else aget m k := by
  induction l generalizing m with
  | nil => simp
  | cons x xs ih =>
    rw [List.foldl_cons, ih, aget_aerase]
    grind

theorem eraseRows_eq {β : Type} (f : β → Nat) (l : List β) (ks : Keyspace) :
    l.foldl (fun ks x => { ks with rows := aerase ks.rows (f x) }) ks =
      { ks with rows := l.foldl (fun m x => aerase m (f x)) ks.rows } :=
  List.foldl_hom (fun m => { ks with rows := m }) fun _ _ => rfl

theorem nodup_keys_aerase {m : List (Nat × α)} {k : Nat} (h : (m.map (·.1)).Nodup) :
    ((aerase m k).map (·.1)).Nodup :=
  h.sublist (List.filter_sublist.map _)

theorem not_mem_keys_aerase (m : List (Nat × α)) (k : Nat) : k ∉ (aerase m k).map (·.1) := by
  intro h
  obtain ⟨p, hp, rfl⟩ := List.mem_map.1 h
  simpa using (List.mem_filter.1 hp).2

theorem nodup_keys_aset {m : List (Nat × α)} {k : Nat} {v : α} (h : (m.map (·.1)).Nodup) :
    ((aset m k v).map (·.1)).Nodup :=
  List.nodup_cons.2 ⟨not_mem_keys_aerase m k, nodup_keys_aerase h⟩

theorem mem_iff_aget (m : List (Nat × α)) (h : (m.map (·.1)).Nodup) (k : Nat) (v : α) :
    (k, v) ∈ m ↔ aget m k = some v := by
  induction m with
  | nil => simp [aget]
  | cons p ps ih =>
    obtain ⟨a, b⟩ := p
    rw [List.map_cons, List.nodup_cons] at h
    simp only [List.mem_cons, aget, Prod.mk.injEq]
    by_cases e : a = k
    · subst e
      have : (a, v) ∉ ps := fun hm => h.1 (List.mem_map_of_mem (f := (·.1)) hm)
      simp [this, eq_comm]
    · simp [e, Ne.symm e, ih h.2]

theorem _root_.Datacake.Map.get_eq_aget (m : Map) (k : Nat) : Map.get m k = aget m k := by
  induction m with
  | nil => rfl
  | cons p ps ih => rw [aget, ← ih]; rfl

end Datacake.Storage

namespace Datacake.Keyspace
open Datacake.Storage

/-- The bytes are there exactly for the live rows. -/
def DataOk (ks : Storage.Keyspace) : Prop :=
  ∀ k, (aget ks.data k).isSome ↔ ∃ ts, aget ks.rows k = some (ts, false)

theorem dataOk_empty : DataOk {} := fun _ => ⟨nofun, nofun⟩

theorem dataOk_put {ks : Storage.Keyspace} {id ts : Nat} {b : List Nat} (h : DataOk ks) :
    DataOk { rows := aset ks.rows id (ts, false), data := aset ks.data id b } := by
  intro k
  simp only [aget_aset]
  split
  · simp
  · exact h k

theorem dataOk_tomb {ks : Storage.Keyspace} {id ts : Nat} (h : DataOk ks) :
    DataOk { rows := aset ks.rows id (ts, true), data := aerase ks.data id } := by
  intro k
  simp only [aget_aset, aget_aerase]
  split
  · simp
  · exact h k

theorem dataOk_eraseRow {ks : Storage.Keyspace} {id : Nat} (h : DataOk ks) (hd : aget ks.data id = none) :
    DataOk { ks with rows := aerase ks.rows id } := by
  intro k
  simp only [aget_aerase]
  split
  next e => simp [e, hd]
  · exact h k

end Datacake.Keyspace
