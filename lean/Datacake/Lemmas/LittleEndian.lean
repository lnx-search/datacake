/-
Little-endian byte strings of any width: `toBytes n v` are the `n` low bytes of `v`, `ofBytes` reads
a byte string back.  The fixed-width codecs of the model are instances (`le32` is `toBytes 4`,
`archive` is `toBytes 8`).
-/
namespace Datacake.LittleEndian

def ofBytes (bs : List Nat) : Nat := bs.foldr (fun b acc => b + 256 * acc) 0

def toBytes : Nat → Nat → List Nat
  | 0, _ => []
  | n + 1, v => v % 256 :: toBytes n (v / 256)

theorem toBytes_eq_map (n v : Nat) : toBytes n v = (List.range n).map (fun i => v / 256 ^ i % 256) := by
  induction n generalizing v with
  | zero => rfl
  | succ n ih =>
    simp only [toBytes, ih, List.range_succ_eq_map, List.map_cons, List.map_map, Function.comp_def,
      Nat.pow_zero, Nat.div_one, Nat.div_div_eq_div_mul, ← Nat.pow_succ']

@[simp] theorem length_toBytes (n v : Nat) : (toBytes n v).length = n := by
  rw [toBytes_eq_map, List.length_map, List.length_range]

theorem toBytes_lt (n v b : Nat) (h : b ∈ toBytes n v) : b < 256 := by
  rw [toBytes_eq_map] at h
  obtain ⟨i, _, rfl⟩ := List.mem_map.1 h
  exact Nat.mod_lt _ (by decide)

theorem ofBytes_toBytes (n v : Nat) (h : v < 256 ^ n) : ofBytes (toBytes n v) = v := by
  induction n generalizing v with
  | zero => rw [Nat.pow_zero, Nat.lt_one_iff] at h; rw [h]; rfl
  | succ n ih =>
    rw [toBytes, ofBytes, List.foldr_cons, ← ofBytes, ih _ (by rwa [Nat.div_lt_iff_lt_mul (by decide), ← Nat.pow_succ])]
    exact Nat.mod_add_div v 256

theorem ofBytes_update_ne (pre post : List Nat) (x y : Nat) (h : y ≠ x) :
    ofBytes (pre ++ y :: post) ≠ ofBytes (pre ++ x :: post) := by
  induction pre with
  | nil => exact fun e => h (Nat.add_right_cancel e)
  | cons a pre ih => exact fun e => ih (Nat.eq_of_mul_eq_mul_left (by decide) (Nat.add_left_cancel e))

end Datacake.LittleEndian
