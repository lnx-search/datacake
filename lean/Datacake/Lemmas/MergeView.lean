import Datacake.Lemmas.Merge

namespace Datacake.OrSwot
open Datacake.Lww Datacake.Map Datacake.Ts

/-- **Per key, `merge` applies the other set's record as an operation** — `coreKey`, as
`insert/delete_with_source` would — provided what its two age checks skip is covered anyway: a
tombstone of `b` that `a` skips as too old, by `a`'s record; a live entry of `a` that `b` considers
too old, by `b`'s record. -/
theorem mergeKey_eq_coreKey (aS bS : Map) (ae ad be bd : Option Nat)
    (ha : ae = none ∨ ad = none) (hb : be = none ∨ bd = none)
    (hskip : ∀ d, bd = some d → isBefore aS d = true → AtLeast (recOf (ae, ad)) (deadRec d))
    (hdrop : ∀ e, ae = some e → isBefore bS e = true → AtLeast (recOf (be, bd)) (liveRec e)) :
    mergeKey aS bS ae ad be bd =
      match (generalizing := false) be, bd with
      | some t, _ => (coreKey false t (ae, ad)).1
      | none, some d => (coreKey true d (ae, ad)).1
      | none, none => (ae, ad) := by
  rcases ae with _ | e <;> rcases ad with _ | x <;> rcases be with _ | t <;> rcases bd with _ | d <;>
    simp only [reduceCtorEq, or_self, or_false, false_or] at ha hb
  -- `a` holds nothing
  · rfl
  · cases hfa : isBefore aS d with
    | true => exact absurd (hskip d rfl hfa) (not_atLeast_none _)
    | false =>
      simp only [mergeKey, mstepKey, coreKey, hfa, Bool.and_false, Bool.false_eq_true, if_false, if_true]
  · simp only [mergeKey, mstepKey, coreKey, Bool.false_and, Bool.false_eq_true, if_false]
  -- `a` holds a tombstone `x`
  · rfl
  · cases hfa : isBefore aS d with
    | true =>
      -- the skipped tombstone is not newer than `x`
      have hdx : ¬ x < d := fun hlt =>
        Nat.not_lt.2 ((atLeast_some _ _).1 (hskip d rfl hfa)) (deadRec_lt_deadRec.2 hlt)
      simp only [mergeKey, mstepKey, coreKey, hfa, Bool.and_true, if_true]
      rw [if_neg hdx]
    | false =>
      simp only [mergeKey, mstepKey, coreKey, hfa, Bool.and_false, Bool.false_eq_true, if_false, if_true]
      by_cases h : x < d
      · rw [if_pos h, Nat.max_eq_right (Nat.le_of_lt h)]
      · rw [if_neg h, Nat.max_eq_left (Nat.le_of_not_lt h)]
  · simp only [mergeKey, mstepKey, coreKey, Bool.false_and, Bool.false_eq_true, if_false]
    by_cases h : t < x <;> simp only [h, if_true, if_false]
  -- `a` holds a live entry `e`
  · cases hfb : isBefore bS e with
    | true => exact absurd (hdrop e rfl hfb) (not_atLeast_none _)
    | false => simp only [mergeKey, lstepKey, hfb, Bool.false_eq_true, if_false]
  · -- a skipped tombstone `d` is at most `e`; a dropped entry `e` is below `d`
    have hs : isBefore aS d = true → d ≤ e := fun h => Nat.le_of_not_lt fun hlt =>
      Nat.not_lt.2 ((atLeast_some _ _).1 (hskip d rfl h)) (liveRec_lt_deadRec.2 (Nat.not_le.2 hlt))
    have hd : isBefore bS e = true → ¬ d ≤ e := fun h hle =>
      Nat.not_lt.2 ((atLeast_some _ _).1 (hdrop e rfl h)) (deadRec_lt_liveRec.2 (Nat.not_lt.2 hle))
    cases hfa : isBefore aS d <;> cases hfb : isBefore bS e <;>
      simp only [mergeKey, mstepKey, lstepKey, coreKey, hfa, hfb, Bool.and_true, Bool.and_false,
        Bool.false_eq_true, if_false, if_true]
    · by_cases h : e < d
      · rw [if_pos h, if_neg (Nat.not_le.2 h)]
      · rw [if_neg h, if_pos (Nat.le_of_not_lt h)]
    · rw [if_neg (hd hfb)]
    · rw [if_pos (hs hfa)]
    · exact absurd (hs hfa) (hd hfb)
  · simp only [mergeKey, mstepKey, coreKey, Bool.false_and, Bool.false_eq_true, if_false]
    by_cases h : e < t
    · rw [if_pos h, Nat.max_eq_left (Nat.le_of_lt h)]
    · rw [if_neg h, Nat.max_eq_right (Nat.le_of_not_lt h)]

/-- **merge_view**: for a key on which the two side conditions of `mergeKey_eq_coreKey` hold, the
merged record is the greater of the two records. -/
theorem merge_view (F : Nat) (a b : OrSwot) (ha : Disj a) (hb : Disj b) (k : Nat)
    (hskip : ∀ d, Map.get b.dead k = some d → isBefore a.safe d = true → AtLeast (view a k) (deadRec d))
    (hdrop : ∀ e, Map.get a.entries k = some e → isBefore b.safe e = true → AtLeast (view b k) (liveRec e)) :
    view (merge F a b) k = omax (view a k) (view b k) ∧
    (Map.get (merge F a b).entries k = none ∨ Map.get (merge F a b).dead k = none) := by
  have hc : cell (merge F a b) k = _ :=
    (merge_get F a b hb k).trans (mergeKey_eq_coreKey a.safe b.safe _ _ _ _ (ha k) (hb k) hskip hdrop)
  -- `rfl` on a variable state, then `rw`: a `show` with `merge F a b` in it is slow to check
  have hv : ∀ s : OrSwot, view s k = recOf (cell s k) := fun _ => rfl
  have hd : ∀ s : OrSwot, (Map.get s.entries k = none ∨ Map.get s.dead k = none) =
      ((cell s k).1 = none ∨ (cell s k).2 = none) := fun _ => rfl
  rw [hv, hv a, hv b, hd, hc]
  have hbk := hb k
  unfold cell at hbk ⊢
  rcases hbe : Map.get b.entries k with _ | t <;> rcases hbd : Map.get b.dead k with _ | d <;>
    rw [hbe, hbd] at hbk
  · exact ⟨(omax_none_right _).symm, ha k⟩
  · exact join_eq_omax _ _ ▸ recOf_coreKey true d (Map.get a.entries k, Map.get a.dead k) (ha k)
  · exact join_eq_omax _ _ ▸ recOf_coreKey false t (Map.get a.entries k, Map.get a.dead k) (ha k)
  · rcases hbk with h | h <;> cases h

end Datacake.OrSwot
