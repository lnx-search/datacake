/- `merge` maps `Rep a A`, `Rep b B` to `Rep (merge a b) (A ++ B)`. -/
import Datacake.Lemmas.MergeView
import Datacake.Lemmas.Rep

namespace Datacake.OrSwot
open Datacake.Lww Datacake.Map Datacake.Ts

theorem versInv_merge (F : Nat) (a b : OrSwot) (S S' : Nat → Prop)
    (ha : VersInv F a S) (hb : VersInv F b S') :
    VersInv F (merge F a b) (fun x => S x ∨ S' x) := by
  obtain ⟨e1, e2⟩ := merge_versions F a b
  refine versInv_congr e1 e2 (versInv_recompute F a _ (mergeVersions.go a.maxs b.maxs)
    (mentioned b.maxs) (fun mp hmp n v hv => ?_)
    (versInv_mono ha fun _ => Or.inl) ?_)
  · rcases mergeVersions_go_mem _ _ mp n v hmp hv with ⟨m, hm, h⟩ | ⟨t, ht, h⟩
    · exact (ha.maxs m hm n v h).imp_left Or.inl
    · exact (hb.maxs t ht n v h).imp_left Or.inr
  · -- the origins `b` mentions are node ids of stamps
    intro nd hnd
    simp only [mentioned, List.mem_flatten, List.mem_map] at hnd
    obtain ⟨l, ⟨t, ht, rfl⟩, hl⟩ := hnd
    obtain ⟨⟨k, v⟩, hkv, rfl⟩ := List.mem_map.1 hl
    exact (hb.maxs t ht k v (mem_bindings.1 hkv)).2 ▸ node_lt v

/-- **merge_rep**: the merged state is the LWW state of the union of what the two replicas had
applied. -/
theorem merge_rep (F : Nat) (a b : OrSwot) (A B H : List Op)
    (hB : ∀ o ∈ B, o ∈ H) (hA : ∀ o ∈ A, o ∈ H)
    (ra : Rep F a A) (rb : Rep F b B) (sa : Sound a A H) (sb : Sound b B H) :
    Rep F (merge F a b) (A ++ B) := by
  have hkey := fun k => merge_view F a b ra.disj rb.disj k
    (fun d hd hbef => ra.view k ▸ lww_ge A k ⟨k, d, true⟩
      (sa _ (hB _ (op_of_rec rb true hd)) hbef) rfl)
    (fun e he hbef => rb.view k ▸ lww_ge B k ⟨k, e, false⟩
      (sb _ (hA _ (op_of_rec ra false he)) hbef) rfl)
  refine ⟨fun k => by rw [(hkey k).1, ra.view, rb.view, lww_append], fun k => (hkey k).2,
    versInv_mono (versInv_merge F a b _ _ ra.vers rb.vers) fun x hx => ?_⟩
  simpa only [Stamps, List.mem_append, or_and_right, exists_or] using hx

end Datacake.OrSwot
