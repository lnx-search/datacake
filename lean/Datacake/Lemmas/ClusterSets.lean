/-
The executable cluster model at the level of the replicated sets: which operations a handled request
and the two halves of an exchange apply to the set of the node that acts (`requestOps`, `removalOps`,
`modificationOps`, `repairOps`), and that nothing else changes (`applyAt_sets`, `repair_sets`).  What an
exchange applies are records of the peer that the node lacks (`repairOps_diff`), and every such record is
offered to `will_apply` by its half (`halves_offer`).

The halves of an exchange act on the keyspace as bulk requests (`applyRemovals_handled`,
`applyModified_handled`), so an exchange is two handler calls on one keyspace (`repair_upd`), with
storage working or failing.
-/
import Datacake.Lemmas.ClusterFrame
import Datacake.Lemmas.Newest
import Datacake.Lemmas.Rep
import Datacake.Props.C05

namespace Datacake.C01d
open Datacake.Lww Datacake.OrSwot Datacake.Keyspace Datacake.Storage Datacake.Cluster

def putOp (src : Nat) (e : Nat × Nat) : SrcOp := ⟨src, ⟨e.1, e.2, false⟩⟩
def delOp (src : Nat) (e : Nat × Nat) : SrcOp := ⟨src, ⟨e.1, e.2, true⟩⟩

theorem srcOp_eq (o : Op) : (⟨1, o⟩ : SrcOp) = if o.isDel then delOp 1 (o.key, o.ts) else putOp 1 (o.key, o.ts) := by
  obtain ⟨k, t, b⟩ := o
  cases b <;> rfl

/-- The entries `on_multi_set` applies: the applicable documents, by stamp. -/
def validPuts (s : OrSwot) (docs : List Doc) : List (Nat × Nat) :=
  sortByTs (((newest (fun (v : Nat × List Nat) => v.1) docs).filter (fun d => willApply s d.1 d.2.1)).map (fun d => (d.1, d.2.1)))

def validDels (s : OrSwot) (docs : List (Nat × Nat)) : List (Nat × Nat) :=
  sortByTs ((newest (fun (t : Nat) => t) docs).filter (fun d => willApply s d.1 d.2))

theorem mem_validPuts {s : OrSwot} {docs : List Doc} {e : Nat × Nat} :
    e ∈ validPuts s docs ↔
      ∃ d ∈ newest (fun (v : Nat × List Nat) => v.1) docs, willApply s d.1 d.2.1 = true ∧ (d.1, d.2.1) = e := by
  simp only [validPuts, sortByTs_perm.mem_iff, List.mem_map, List.mem_filter, and_assoc]

theorem mem_validDels {s : OrSwot} {docs : List (Nat × Nat)} {e : Nat × Nat} :
    e ∈ validDels s docs ↔ e ∈ newest (fun (t : Nat) => t) docs ∧ willApply s e.1 e.2 = true := by
  rw [validDels, sortByTs_perm.mem_iff, List.mem_filter]

def absSet (c : Cluster) (x : Nat) : OrSwot := (getNode c x).ks.set

theorem _root_.Datacake.Cluster.KsUpd.sets {j : Nat} {k : Node} {c c' : Cluster} (h : KsUpd j k c c') (x : Nat) :
    absSet c' x = if x = j then k.set else absSet c x := by
  unfold absSet
  rw [h.ks_eq x]
  split <;> rfl

/-- The operations a request applies at the node that handles it (storage working). -/
def requestOps (s : OrSwot) : Issued → List Op
  | .put d => if willApply s d.1 d.2.1 then [⟨d.1, d.2.1, false⟩] else []
  | .del id ts => if willApply s id ts then [⟨id, ts, true⟩] else []
  | .mput ds => (validPuts s ds).map (fun e => ⟨e.1, e.2, false⟩)
  | .mdel ds => (validDels s ds).map (fun e => ⟨e.1, e.2, true⟩)

/-- The operations a request carries. -/
def carried : Issued → List Op
  | .put d => [⟨d.1, d.2.1, false⟩]
  | .del id ts => [⟨id, ts, true⟩]
  | .mput ds => ds.map (fun d => ⟨d.1, d.2.1, false⟩)
  | .mdel ds => ds.map (fun d => ⟨d.1, d.2, true⟩)

theorem requestOps_sub (s : OrSwot) (iss : Issued) : ∀ o ∈ requestOps s iss, o ∈ carried iss := by
  intro o ho
  cases iss with
  | put _ | del _ _ => exact (List.mem_ite_nil_right.1 ho).2
  | mput ds =>
    obtain ⟨e, he, rfl⟩ := List.mem_map.1 ho
    obtain ⟨d, hd, _, rfl⟩ := mem_validPuts.1 he
    exact List.mem_map_of_mem (newest_mem hd)
  | mdel ds =>
    obtain ⟨e, he, rfl⟩ := List.mem_map.1 ho
    exact List.mem_map_of_mem (newest_mem (mem_validDels.1 he).1)

theorem handleAt_set (n : Node) (src : Nat) (iss : Issued) :
    (handleAt n src false iss).1.set = applyAll Cluster.F n.set ((requestOps n.set iss).map (SrcOp.mk src)) := by
  cases iss with
  | put _ | del _ _ =>
    simp only [handleAt, onSet_eq, onDel_eq, onOne_fst, requestOps]
    generalize willApply n.set _ _ = b
    cases b <;> rfl
  | mput ds => rw [handleAt, onMultiSet, onMultiSetCore_eq, requestOps, List.map_map]; rfl
  | mdel ds =>
    rw [handleAt, onMultiDel, onMultiDelCore_eq, requestOps, List.map_map]
    simp only [onBulk, Node.commit, List.map_id]
    rfl

theorem applyAt_sets (c : Cluster) (i src : Nat) (iss : Issued) (h : i < c.nodes.length)
    (hf : (getNode c i).failNext = false) (x : Nat) :
    absSet (applyAt c i src iss).1 x =
      if x = i then applyAll Cluster.F (absSet c i) ((requestOps (absSet c i) iss).map (SrcOp.mk src)) else absSet c x := by
  rw [(applyAt_handled c i src iss h).toKsUpd.sets x, hf, handleAt_set]
  rfl

theorem sortByTs_single (x : Nat × Nat) : sortByTs [x] = [x] := rfl

theorem applyAll_nil (F : Nat) (s : OrSwot) : applyAll F s [] = s := rfl

theorem applyAll_append (F : Nat) (s : OrSwot) (a b : List SrcOp) : applyAll F s (a ++ b) = applyAll F (applyAll F s a) b :=
  List.foldl_append

/-- The halves of an exchange reach the set on source 1
(`READ_REPAIR_SOURCE_ID`); requests of clients and of the replication services on source 0
(`CONSISTENCY_SOURCE_ID`). -/
def removalOps (s : OrSwot) (removed : List (Nat × Nat)) : List SrcOp := (validDels s removed).map (delOp 1)

/-- What the modification half applies, given the documents fetched from the peer. -/
def modificationOps (s : OrSwot) (docs : List Doc) : List SrcOp := (validPuts s docs).map (putOp 1)

/-- The documents `FetchDocs` returns for the listed ids: what the peer's store holds for them NOW. -/
def fetched (peer : Storage.Keyspace) (modified : List (Nat × Nat)) : List Doc :=
  modified.filterMap (fun m =>
    match aget peer.data m.1, aget peer.rows m.1 with
    | some bytes, some (ts, _) => some (m.1, ts, bytes)
    | _, _ => none)

theorem mem_fetched {store : Storage.Keyspace} {modified : List (Nat × Nat)} {d : Doc} :
    d ∈ fetched store modified ↔
      ∃ m ∈ modified, m.1 = d.1 ∧ aget store.data d.1 = some d.2.2 ∧ ∃ tomb, aget store.rows d.1 = some (d.2.1, tomb) := by
  unfold fetched
  rw [List.mem_filterMap]
  constructor
  · rintro ⟨m, hm, hd⟩
    split at hd
    · next hdat hrow => cases hd; exact ⟨m, hm, rfl, hdat, _, hrow⟩
    · cases hd
  · rintro ⟨m, hm, h1, hdat, tomb, hrow⟩
    exact ⟨m, hm, by rw [h1, hdat, hrow]⟩

theorem fetched_rec {n : Node} (ha : Agree n) {modified : List (Nat × Nat)} {d : Doc}
    (hd : d ∈ fetched n.store modified) : Map.get n.set.entries d.1 = some d.2.1 := by
  obtain ⟨_, _, _, hdat, tomb, hrow⟩ := mem_fetched.1 hd
  exact (agree_live n ha _ _).2 ⟨tomb, hrow, by rw [hdat]; rfl⟩

theorem fetched_of_rec {n : Node} (ha : Agree n) {modified : List (Nat × Nat)} {k t : Nat}
    (hm : (k, t) ∈ modified) (he : Map.get n.set.entries k = some t) :
    ∃ bytes, (k, t, bytes) ∈ fetched n.store modified := by
  obtain ⟨tomb, hrow, hdat⟩ := (agree_live n ha k t).1 he
  obtain ⟨bytes, hb⟩ := Option.isSome_iff_exists.1 hdat
  exact ⟨bytes, mem_fetched.2 ⟨(k, t), hm, rfl, hb, tomb, hrow⟩⟩

theorem fetched_nodup {store : Storage.Keyspace} {modified : List (Nat × Nat)} (h : (modified.map (·.1)).Nodup) :
    ((fetched store modified).map (·.1)).Nodup := by
  -- a fetched document carries the id of its item
  refine List.pairwise_map.2 (List.Pairwise.filterMap _ (fun m m' hne d hd d' hd' => ?_) (List.pairwise_map.1 h))
  split at hd <;> cases hd
  split at hd' <;> cases hd'
  exact hne

theorem handleAt_bulk_nil {n : Node} (src : Nat) {f : Bool} :
    (handleAt n src f (.mdel [])).1 = n ∧ (handleAt n src f (.mput [])).1 = n := by
  cases f <;> exact ⟨rfl, rfl⟩

theorem handleAt_mdel_single (n : Node) (src : Nat) (f : Bool) (r : Nat × Nat) :
    (handleAt n src f (.mdel [r])).1 = (handleAt n src f (.del r.1 r.2)).1 := by
  cases f
  · simp only [handleAt, onDel, onMultiDel, onMultiDelCore, newest_singleton, List.filter]
    cases willApply n.set r.1 r.2 <;> rfl
  · rw [handleAt_fault, handleAt_fault]

/-- Also when the list has one entry and a `Del` is sent. -/
theorem applyRemovals_handled (c : Cluster) (j : Nat) (removed : List (Nat × Nat)) (h : j < c.nodes.length) :
    Handled j (handleAt (getNode c j).ks 1 (getNode c j).failNext (.mdel removed)).1 c (applyRemovals c j removed) := by
  unfold applyRemovals
  split
  · rw [(handleAt_bulk_nil 1).1]
    exact Handled.none j c
  · rw [handleAt_mdel_single]
    exact applyAt_handled c j 1 _ h
  · exact applyAt_handled c j 1 _ h

theorem applyModified_handled (c : Cluster) (j i : Nat) (modified : List (Nat × Nat)) (h : j < c.nodes.length) :
    Handled j (handleAt (getNode c j).ks 1 (getNode c j).failNext (.mput (fetched (getNode c i).ks.store modified))).1 c
      (applyModified c j i modified) := by
  unfold applyModified
  split
  · rw [show fetched (getNode c i).ks.store [] = [] from rfl, (handleAt_bulk_nil 1).2]
    exact Handled.none j c
  · exact applyAt_handled c j 1 _ h

theorem applyModified_other (c : Cluster) (j i : Nat) (modified : List (Nat × Nat)) (x : Nat) (hx : x ≠ j) :
    getNode (applyModified c j i modified).1 x = getNode c x := by
  unfold applyModified
  split
  · rfl
  · exact (applyAt_only c j 1 _).other x hx

def polls (c : Cluster) (j i : Nat) : Bool :=
  (getNode c i).exists_ && !((getNode c j).tracker.getD i none == some (getNode c i).change)

theorem polls_ite {α : Type} (c : Cluster) (j i : Nat) (x y : α) :
    (if !(getNode c i).exists_ then x
      else if (getNode c j).tracker.getD i none == some (getNode c i).change then x else y) =
      if polls c j i then y else x := by
  unfold polls
  cases (getNode c i).exists_ <;> cases ((getNode c j).tracker.getD i none == some (getNode c i).change) <;> rfl

/-- What an exchange `j ← i` applies at `j`, in order (nothing when the poll is skipped). -/
def repairOps (c : Cluster) (j i : Nat) (removalsFirst : Bool) : List SrcOp :=
  if !(getNode c i).exists_ then []
  else if (getNode c j).tracker.getD i none == some (getNode c i).change then []
  else
    let s0 := absSet c j
    let d := diff s0 (absSet c i)
    let peer := (getNode c i).ks.store
    if removalsFirst then
      let r := removalOps s0 d.2
      r ++ modificationOps (applyAll Cluster.F s0 r) (fetched peer d.1)
    else
      let m := modificationOps s0 (fetched peer d.1)
      m ++ removalOps (applyAll Cluster.F s0 m) d.2

theorem of_mem_removalOps {s : OrSwot} {removed : List (Nat × Nat)} {so : SrcOp} (h : so ∈ removalOps s removed) :
    ∃ p ∈ removed, so = delOp 1 p := by
  obtain ⟨p, hp, rfl⟩ := List.mem_map.1 h
  exact ⟨p, newest_mem (mem_validDels.1 hp).1, rfl⟩

theorem mem_removalOps {s : OrSwot} {removed : List (Nat × Nat)} (hnd : (removed.map (·.1)).Nodup) {p : Nat × Nat}
    (hp : p ∈ removed) (hw : willApply s p.1 p.2 = true) : delOp 1 p ∈ removalOps s removed :=
  List.mem_map_of_mem (mem_validDels.2 ⟨(newest_of_nodup hnd).symm ▸ hp, hw⟩)

theorem of_mem_modificationOps {s : OrSwot} {docs : List Doc} {so : SrcOp} (h : so ∈ modificationOps s docs) :
    ∃ d ∈ docs, so = putOp 1 (d.1, d.2.1) := by
  obtain ⟨p, hp, rfl⟩ := List.mem_map.1 h
  obtain ⟨d, hd, _, rfl⟩ := mem_validPuts.1 hp
  exact ⟨d, newest_mem hd, rfl⟩

theorem mem_modificationOps {s : OrSwot} {docs : List Doc} (hnd : (docs.map (·.1)).Nodup) {d : Doc}
    (hd : d ∈ docs) (hw : willApply s d.1 d.2.1 = true) : putOp 1 (d.1, d.2.1) ∈ modificationOps s docs :=
  List.mem_map_of_mem (mem_validPuts.2 ⟨d, (newest_of_nodup hnd).symm ▸ hd, hw, rfl⟩)

theorem of_mem_repairOps (c : Cluster) (j i : Nat) (rf : Bool) (so : SrcOp) (h : so ∈ repairOps c j i rf) :
    (∃ p ∈ (diff (absSet c j) (absSet c i)).2, so = delOp 1 p) ∨
    ∃ d ∈ fetched (getNode c i).ks.store (diff (absSet c j) (absSet c i)).1, so = putOp 1 (d.1, d.2.1) := by
  rw [repairOps, polls_ite] at h
  cases hp : polls c j i <;> rw [hp] at h
  · cases h
  · cases rf <;> rcases List.mem_append.1 h with h | h
    · exact Or.inr (of_mem_modificationOps h)
    · exact Or.inl (of_mem_removalOps h)
    · exact Or.inl (of_mem_removalOps h)
    · exact Or.inr (of_mem_modificationOps h)

/-- A record of the peer `n` that the set `s` admits is listed by the difference of `s` against `n`, and
its half applies it, whatever the set it starts from, if `will_apply` admits it then. -/
theorem halves_offer (n : Node) (hagree : Agree n) (s : OrSwot) (o : Op) (hrec : HasRec n.set o.key o.ts o.isDel)
    (hw : willApply s o.key o.ts = true) :
    (∀ s', willApply s' o.key o.ts = true → (⟨1, o⟩ : SrcOp) ∈ removalOps s' (diff s n.set).2) ∨
    (∀ s', willApply s' o.key o.ts = true →
      (⟨1, o⟩ : SrcOp) ∈ modificationOps s' (fetched n.store (diff s n.set).1)) := by
  rw [C05.willApply_eq, Bool.and_eq_true, C05.lacks_iff] at hw
  have hnd := C05.diff_nodup s n.set
  have hdiff := C05.diff_exact s n.set o.key o.ts
  rw [srcOp_eq o]
  cases hdel : o.isDel <;> rw [hdel] at hrec
  · obtain ⟨bytes, hfetched⟩ := fetched_of_rec hagree (hdiff.1.2 ⟨hrec, hw.2⟩) hrec
    exact Or.inr fun s' hw' => mem_modificationOps (fetched_nodup hnd.1) hfetched hw'
  · exact Or.inl fun s' hw' => mem_removalOps hnd.2 (hdiff.2.2 ⟨hrec, hw.2⟩) hw'

/-- Every item an exchange applies is a record of the peer that the repairing node lacks. -/
theorem repairOps_diff (c : Cluster) (j i : Nat) (rf : Bool) (hagree : Agree (getNode c i).ks) (so : SrcOp)
    (hso : so ∈ repairOps c j i rf) :
    HasRec (absSet c i) so.op.key so.op.ts so.op.isDel ∧ C05.Lacks (absSet c j) so.op.key so.op.ts := by
  rcases of_mem_repairOps c j i rf so hso with ⟨p, hp, rfl⟩ | ⟨d, hd, rfl⟩
  · exact (C05.diff_exact _ _ p.1 p.2).2.1 hp
  · -- a fetched document carries the stamp the difference lists: both are the peer's live record
    obtain ⟨m, hm, hm1, _⟩ := mem_fetched.1 hd
    have hrec := fetched_rec hagree hd
    obtain ⟨h1, h2⟩ := (C05.diff_exact (absSet c j) (absSet c i) m.1 m.2).1.1 hm
    rw [hm1] at h1 h2
    exact ⟨hrec, Option.some.inj (h1.symm.trans hrec) ▸ h2⟩

/-- The two halves of an exchange `j ← i` as bulk requests on `j`'s keyspace; `docs` are the documents fetched. -/
def repairReqs (c : Cluster) (j i : Nat) (removalsFirst : Bool) (docs : List Doc) : List Issued :=
  if polls c j i then
    if removalsFirst then [.mdel (diff (absSet c j) (absSet c i)).2, .mput docs]
    else [.mput docs, .mdel (diff (absSet c j) (absSet c i)).2]
  else []

theorem mem_repairReqs {c : Cluster} {j i : Nat} {rf : Bool} {docs : List Doc} {q : Issued}
    (h : q ∈ repairReqs c j i rf docs) : q = .mdel (diff (absSet c j) (absSet c i)).2 ∨ q = .mput docs := by
  unfold repairReqs at h
  split at h
  · cases rf <;> simpa [or_comm] using h
  · cases h

/-- `docs`: the documents are fetched from the peer's store as it is when the modification half runs —
as it was before the exchange, unless a node repairs from itself. -/
theorem repair_upd (c : Cluster) (j i : Nat) (rf : Bool) (h : j < c.nodes.length) :
    ∃ docs, (j ≠ i → docs = fetched (getNode c i).ks.store (diff (absSet c j) (absSet c i)).1) ∧
      KsUpd j ((repairReqs c j i rf docs).foldl (fun k q => (handleAt k 1 (getNode c j).failNext q).1) (getNode c j).ks) c
        (repair c j i rf).1 := by
  rw [repair, polls_ite]
  unfold repairReqs absSet
  cases polls c j i with
  | false => exact ⟨_, fun _ => rfl, KsUpd.refl j c⟩
  | true =>
    obtain ⟨hk0, hf0, _⟩ := touch_fields c j j
    have hl0 : j < (touch c j).nodes.length := touch_length c j ▸ h
    dsimp only
    rw [hk0]
    generalize diff (getNode c j).ks.set (getNode c i).ks.set = D
    obtain ⟨modified, removed⟩ := D
    cases rf with
    | true =>
      have H1 := applyRemovals_handled (touch c j) j removed hl0
      have H := H1.seq (applyModified_handled _ j i modified (H1.length ▸ hl0))
      rw [hk0, hf0] at H
      exact ⟨_, fun hji => by rw [H1.other i (Ne.symm hji), (touch_only c j).other i (Ne.symm hji)],
        ((touch_upd c j).trans H).setTracker h _ _ _ _⟩
    | false =>
      have H1 := applyModified_handled (touch c j) j i modified hl0
      have H := H1.seq (applyRemovals_handled _ j removed (H1.length ▸ hl0))
      rw [hk0, hf0, (touch_fields c j i).1] at H
      exact ⟨_, fun _ => rfl, ((touch_upd c j).trans H).setTracker h _ _ _ _⟩

theorem repair_upd_ne (c : Cluster) (j i : Nat) (rf : Bool) (h : j < c.nodes.length) (hji : j ≠ i) :
    KsUpd j ((repairReqs c j i rf (fetched (getNode c i).ks.store (diff (absSet c j) (absSet c i)).1)).foldl
      (fun k q => (handleAt k 1 (getNode c j).failNext q).1) (getNode c j).ks) c (repair c j i rf).1 := by
  obtain ⟨docs, hd, H⟩ := repair_upd c j i rf h
  rw [← hd hji]
  exact H

/-- **repair_sets**: one exchange changes node `j`'s set by applying `repairOps` in order, and no other
node's. -/
theorem repair_sets (c : Cluster) (j i : Nat) (rf : Bool) (h : j < c.nodes.length)
    (hf : (getNode c j).failNext = false) (hji : j ≠ i) (x : Nat) :
    absSet (repair c j i rf).1 x =
      if x = j then applyAll Cluster.F (absSet c j) (repairOps c j i rf) else absSet c x := by
  rw [(repair_upd_ne c j i rf h hji).sets x, hf]
  congr 1
  rw [repairReqs, repairOps, polls_ite]
  cases polls c j i with
  | false => rfl
  | true =>
    cases rf <;>
      simp only [if_true, Bool.false_eq_true, if_false, List.foldl_cons, List.foldl_nil, handleAt_set, applyAll_append,
        removalOps, modificationOps, requestOps, List.map_map] <;> rfl

end Datacake.C01d
