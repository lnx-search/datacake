/- Set-level facts about the membership watcher and the delta application. -/
import Datacake.Model.Membership
import Datacake.Basic.ListLemmas

namespace Datacake.Membership

/-- Ids are distinct (a map). -/
def DistinctIds (l : List Member) : Prop := ∀ a ∈ l, ∀ b ∈ l, a.1 = b.1 → a = b

theorem DistinctIds.subset {l s : List Member} (hd : DistinctIds s) (h : ∀ m ∈ l, m ∈ s) : DistinctIds l :=
  fun a ha b hb => hd a (h a ha) b (h b hb)

theorem sortMembers_perm (l : List Member) : (sortMembers l).Perm l :=
  insSort_perm (fun m x => m.1 < x.1 ∨ (m.1 = x.1 ∧ m.2 ≤ x.2)) insertSorted (fun _ => rfl)
    (fun _ _ _ => rfl) l

theorem diffSet_mem {x : Member} {a b : List Member} : x ∈ diffSet a b ↔ x ∈ a ∧ x ∉ b := by
  unfold diffSet
  rw [(sortMembers_perm _).mem_iff, List.mem_filter]
  simp

theorem lookupId_of_mem (s : Snapshot) (hd : DistinctIds s) (m : Member) (hm : m ∈ s) :
    lookupId s m.1 = some m := by
  induction s with
  | nil => cases hm
  | cons x xs ih =>
    unfold lookupId
    split
    next e => rw [hd x List.mem_cons_self m hm e]
    next e =>
      rcases List.mem_cons.1 hm with rfl | h
      · exact absurd rfl e
      · exact ih (hd.subset fun _ => List.mem_cons_of_mem _) h

theorem filterMap_lookupId {s : Snapshot} (hd : DistinctIds s) {l : List Member} (hl : ∀ m ∈ l, m ∈ s) :
    l.filterMap (fun m => lookupId s m.1) = l := by
  induction l with
  | nil => rfl
  | cons m l ih =>
    rw [List.filterMap_cons, lookupId_of_mem s hd m (hl m List.mem_cons_self),
      ih fun x hx => hl x (List.mem_cons_of_mem _ hx)]

theorem removeId_mem {l : List Member} {id : Nat} {x : Member} : x ∈ removeId l id ↔ x ∈ l ∧ x.1 ≠ id := by
  unfold removeId; rw [List.mem_filter]; simp

theorem networkSet_mem {self : Nat} {s : Snapshot} {m : Member} :
    m ∈ networkSet self s ↔ m ∈ s ∧ m.1 ≠ self := removeId_mem

theorem distinct_networkSet (self : Nat) (s : Snapshot) (hd : DistinctIds s) :
    DistinctIds (networkSet self s) :=
  hd.subset fun _ hm => (networkSet_mem.1 hm).1

theorem foldl_remove_mem {left : List Member} {live : List Member} {x : Member} :
    x ∈ left.foldl (fun l m => removeId l m.1) live ↔ x ∈ live ∧ ∀ m ∈ left, x.1 ≠ m.1 := by
  induction left generalizing live with
  | nil => simp
  | cons y ys ih => rw [List.foldl_cons, ih, removeId_mem, List.forall_mem_cons, and_assoc]

theorem foldl_insert_mem {joined : List Member} (hd : DistinctIds joined) {l1 : List Member} {x : Member} :
    x ∈ joined.foldl (fun l m => removeId l m.1 ++ [m]) l1 ↔
      x ∈ joined ∨ (x ∈ l1 ∧ ∀ m ∈ joined, x.1 ≠ m.1) := by
  induction joined generalizing l1 with
  | nil => simp
  | cons y ys ih =>
    -- `y` stays in unless a later member has its id, which then is `y` itself
    have hy : y ∈ ys ∨ ∀ m ∈ ys, y.1 ≠ m.1 := Decidable.or_iff_not_imp_left.2 fun hy m hm e =>
      hy (hd y List.mem_cons_self m (List.mem_cons_of_mem _ hm) e ▸ hm)
    rw [List.foldl_cons, ih (hd.subset fun _ => List.mem_cons_of_mem _), List.mem_append, removeId_mem,
      List.mem_singleton, List.mem_cons, List.forall_mem_cons]
    constructor
    · rintro (h | ⟨⟨h1, h2⟩ | h1, h3⟩)
      · exact .inl (.inr h)
      · exact .inr ⟨h1, h2, h3⟩
      · exact .inl (.inl h1)
    · rintro ((rfl | h) | ⟨h1, h2, h3⟩)
      · exact hy.imp_right fun h => ⟨.inr rfl, h⟩
      · exact .inl h
      · exact .inr ⟨.inl ⟨h1, h2⟩, h3⟩

theorem applyDelta_mem {live : List Member} {d : Delta} (hd : DistinctIds d.joined) {x : Member} :
    x ∈ applyDelta live d ↔
      x ∈ d.joined ∨ ((x ∈ live ∧ ∀ m ∈ d.left, x.1 ≠ m.1) ∧ ∀ m ∈ d.joined, x.1 ≠ m.1) := by
  rw [applyDelta, foldl_insert_mem hd, foldl_remove_mem]

theorem applyDelta_diff {old new live : List Member} (ho : DistinctIds old) (hn : DistinctIds new)
    (hlive : ∀ m, m ∈ live ↔ m ∈ old) (m : Member) :
    m ∈ applyDelta live ⟨diffSet new old, diffSet old new⟩ ↔ m ∈ new := by
  rw [applyDelta_mem (hn.subset fun a ha => (diffSet_mem.1 ha).1), hlive]
  simp only [diffSet_mem]
  constructor
  · rintro (h | ⟨⟨hm, h2⟩, _⟩)
    · exact h.1
    · -- m was there before and is not reported as left: it is still there
      exact Classical.byContradiction fun hin => h2 m ⟨hm, hin⟩ rfl
  · intro hnew
    by_cases hold : m ∈ old
    · exact .inr ⟨⟨hold, fun l hl e => hl.2 (ho m hold l hl.1 e ▸ hnew)⟩,
        fun j hj e => hj.2 (hn m hnew j hj.1 e ▸ hold)⟩
    · exact .inl ⟨hnew, hold⟩

theorem Sub.poll_seen {self : Nat} {s : Sub} {c : Chan} (h : s.seen = some c.version) :
    s.poll self c = (none, s) := if_pos h

theorem Sub.poll_unseen {self : Nat} {s : Sub} {c : Chan} (h : s.seen ≠ some c.version) :
    s.poll self c = (some (delta self s.last c.value),
      { seen := some c.version, last := c.value, live := applyDelta s.live (delta self s.last c.value) }) :=
  if_neg h

end Datacake.Membership
