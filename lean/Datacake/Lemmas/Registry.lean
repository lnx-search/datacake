/-
The handler registry of `Model/Rpc.lean` seen through `lookup`: what `addHandlers` and `removeHandlers`
do to the answer for a handler key and for a service name.  `exists_fun_of_unique` in front of them is
not about the registry: `Props/C13` and `Props/C13c` take the owner of a key from it.
-/
import Datacake.Model.Rpc

namespace Datacake.Rpc

theorem exists_fun_of_unique {α β : Type} [Inhabited α] (R : β → α → Prop)
    (h : ∀ b a a', R b a → R b a' → a = a') : ∃ f : β → α, ∀ b a, R b a → f b = a :=
  Classical.axiomOfChoice fun b => (Classical.em (∃ a, R b a)).elim
    (fun ⟨a0, h0⟩ => ⟨a0, fun a => h b a0 a h0⟩) fun hn => ⟨default, fun a hr => absurd ⟨a, hr⟩ hn⟩

theorem lookup_map_append (keys : List Nat) (inst : Nat) (rest : List (Nat × Nat)) (k : Nat) :
    lookup (keys.map (fun k => (k, inst)) ++ rest) k = if k ∈ keys then some inst else lookup rest k := by
  induction keys with
  | nil => rfl
  | cons x xs ih => by_cases h : x = k <;> simp_all [lookup, eq_comm (a := k)]

theorem lookup_filter {α : Type} (m : List (Nat × α)) (p : Nat → Bool) (k : Nat) :
    lookup (m.filter (fun q => p q.1)) k = if p k then lookup m k else none := by
  induction m with
  | nil => simp [lookup]
  | cons x xs ih =>
    obtain ⟨a, b⟩ := x
    by_cases hp : p a = true <;> by_cases h : a = k <;> simp_all [lookup]

theorem lookup_remove {α : Type} {m : List (Nat × α)} {n n' : Nat} :
    lookup (remove m n) n' = if n' = n then none else lookup m n' := by
  rw [remove, lookup_filter m (fun x => decide (x ≠ n))]
  by_cases h : n' = n <;> simp [h]

theorem lookup_filter_not_contains {m : List (Nat × Nat)} {ks : List Nat} {k : Nat} :
    lookup (m.filter (fun p => !ks.contains p.1)) k = if k ∈ ks then none else lookup m k := by
  rw [lookup_filter m (fun x => !ks.contains x)]
  by_cases hk : k ∈ ks <;> simp [hk]

theorem handlers_addHandlers (st : Registry) (n : Nat) (keys : List Nat) (inst k : Nat) :
    lookup (addHandlers st n keys inst).handlers k = if k ∈ keys then some inst else lookup st.handlers k := by
  rw [addHandlers, lookup_map_append, lookup_filter_not_contains]
  by_cases hk : k ∈ keys <;> simp [hk]

theorem services_addHandlers (st : Registry) (n : Nat) (keys : List Nat) (inst m : Nat) :
    lookup (addHandlers st n keys inst).services m =
      if m = n then some (keys ++ (lookup st.services n).getD []) else lookup st.services m := by
  rw [addHandlers, lookup, lookup_remove]
  by_cases h : m = n <;> simp_all [eq_comm (a := n)]

theorem handlers_removeHandlers (st : Registry) (n k : Nat) :
    lookup (removeHandlers st n).handlers k =
      if k ∈ (lookup st.services n).getD [] then none else lookup st.handlers k := by
  unfold removeHandlers
  cases lookup st.services n with
  | none => rfl
  | some uris => exact lookup_filter_not_contains

theorem services_removeHandlers (st : Registry) (n m : Nat) :
    lookup (removeHandlers st n).services m = if m = n then none else lookup st.services m := by
  unfold removeHandlers
  cases h : lookup st.services n with
  | none =>
    by_cases hm : m = n
    · simp [hm, h]
    · simp [hm]
  | some uris => exact lookup_remove

end Datacake.Rpc
