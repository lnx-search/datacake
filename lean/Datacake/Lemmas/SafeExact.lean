/-
`SafeExact`: the safe cut-off of every origin is EXACTLY the forgiveness of the minimum over the
sources of the newest stamp seen from it (`compute_safe_last_stamp` is re-run whenever a per-source
maximum changes).  An invariant of every state built from `insert/delete_with_source` and
`purge_old_deletes` — which is every state of a keyspace actor.

Consequence (`accepted_sorted`): a batch applied in ascending stamp order (what
`on_multi_set` / `on_multi_del` do after `sort_by_key`) never has an element refused as too old
when its turn comes, provided it was not too old when the request started (`will_apply`).
`accepted_quiet` is the other way to acceptance: while one source stays behind, the cut-off — a
minimum over the sources — cannot pass it (the gap-free exchange of C05c).
-/
import Datacake.Lemmas.Apply

namespace Datacake.OrSwot
open Datacake.Lww Datacake.Map Datacake.Ts

structure SafeExact (F : Nat) (s : OrSwot) : Prop where
  some_ : ∀ X v, Map.get s.safe X = some v →
    ∃ x xs, srcVals s.maxs X = x :: xs ∧ v = forgive F (minList x xs)
  none_ : ∀ X, Map.get s.safe X = none → ∀ m ∈ s.maxs, Map.get m X = none

theorem safeExact_empty (F n : Nat) : SafeExact F (OrSwot.empty n) := by
  constructor
  · intro X v h; cases h
  · intro X _ m hm
    rw [eq_nil_of_mem_empty hm]; rfl

theorem srcVals_bumped (l : List Map) (src t' : Nat) :
    t' ∈ srcVals (modifyNth l src (bumpMap t')) (node t') ∨
      srcVals (modifyNth l src (bumpMap t')) (node t') = srcVals l (node t') := by
  induction l generalizing src with
  | nil => exact Or.inr rfl
  | cons x xs ih =>
    cases src with
    | zero =>
      simp only [modifyNth, srcVals, List.map_cons, bumpMap_get_eq, if_true, join_eq_ite]
      split
      · exact Or.inl List.mem_cons_self
      · exact Or.inr rfl
    | succ i =>
      simp only [modifyNth, srcVals, List.map_cons]
      exact (ih i).imp (List.mem_cons_of_mem _) (congrArg _)

theorem safeExact_congr (F : Nat) (s s' : OrSwot) (hm : s'.maxs = s.maxs) (hs : s'.safe = s.safe)
    (h : SafeExact F s) : SafeExact F s' :=
  ⟨fun X v hv => hm ▸ h.some_ X v (hs ▸ hv), fun X hv => hm ▸ h.none_ X (hs ▸ hv)⟩

/-- Any change of the per-source maxima that leaves the values of the origins outside `nodes`
untouched, followed by recomputing the cut-off of every origin in `nodes`, keeps the cut-offs exact;
a single accepted stamp (`nodes` = its origin) and `NodeVersions::merge` (`nodes` = the origins the
remote state mentions) are the two instances. -/
theorem safeExact_recompute (F : Nat) (s : OrSwot) (maxs' : List Map) (nodes : List Nat)
    (h : SafeExact F s) (hlen : maxs'.length = s.maxs.length)
    (hmap : ∀ X, X ∉ nodes → maxs'.map (fun m => Map.get m X) = s.maxs.map (fun m => Map.get m X)) :
    SafeExact F { s with maxs := maxs',
                         safe := nodes.foldl (fun sf nd => computeSafe F maxs' sf nd) s.safe } := by
  have hcol : ∀ X, X ∉ nodes ∨ maxs' = [] →
      maxs'.map (fun m => Map.get m X) = s.maxs.map (fun m => Map.get m X) := fun X hX =>
    hX.elim (hmap X) fun e => by rw [e] at hlen ⊢; rw [List.eq_nil_of_length_eq_zero hlen.symm]
  constructor
  · intro X v hv
    rcases foldl_computeSafe_cases F maxs' nodes s.safe X with ⟨x, xs, _, e1, e2⟩ | ⟨hX, e2⟩
    · exact ⟨x, xs, e1, Option.some.inj (hv.symm.trans e2)⟩
    · have hs : srcVals maxs' X = srcVals s.maxs X := by
        have := congrArg (List.map fun o : Option Nat => o.getD (pack 0 0 X)) (hcol X hX)
        rwa [List.map_map, List.map_map] at this
      exact hs ▸ h.some_ X v (e2 ▸ hv)
  · intro X hv m' hm'
    rcases foldl_computeSafe_cases F maxs' nodes s.safe X with ⟨_, _, _, _, e2⟩ | ⟨hX, e2⟩
    · cases e2.symm.trans hv
    · obtain ⟨m, hm, e⟩ := List.mem_map.1 (hcol X hX ▸ List.mem_map_of_mem (f := fun m => Map.get m X) hm')
      exact e ▸ h.none_ X (e2 ▸ hv) m hm

theorem safeExact_bumped (F : Nat) (s : OrSwot) (src ts : Nat) (h : SafeExact F s) :
    SafeExact F (bumped F s src ts) :=
  safeExact_recompute F s _ [node ts] h modifyNth_length fun X hX =>
    modifyNth_map fun m => by
      rw [bumpMap_get_eq, if_neg fun e : X = node ts => hX (List.mem_singleton.2 e)]

/-- Stored per-source maxima are well-formed stamps of their origin. -/
def GoodMaxs (s : OrSwot) : Prop :=
  ∀ m ∈ s.maxs, ∀ X v, Map.get m X = some v → node v = X ∧ v < 18446744073709551616 ∧ fractional v < 250

theorem goodMaxs_empty (n : Nat) : GoodMaxs (OrSwot.empty n) := by
  intro m hm X v hv
  rw [eq_nil_of_mem_empty hm] at hv
  cases hv

theorem goodMaxs_bumped (F : Nat) (s : OrSwot) (src ts : Nat) (h : GoodMaxs s) (hts : ValidStamp ts) :
    GoodMaxs (bumped F s src ts) := by
  intro m hmem X v hv
  rcases bumped_mem hmem hv with ⟨m0, hm0, hv⟩ | ⟨rfl, rfl⟩
  · exact h m0 hm0 X v hv
  · exact ⟨rfl, hts.1, hts.2⟩

theorem forgive_min_le (F : Nat) {s : OrSwot} (hg : GoodMaxs s) {X : Nat} (hX : X < 256) {x : Nat}
    {xs : List Nat} (e : srcVals s.maxs X = x :: xs) : ∀ y ∈ srcVals s.maxs X, forgive F (minList x xs) ≤ y := by
  intro y hy
  refine Nat.le_trans ?_ (minList_le x xs y (e ▸ hy))
  obtain ⟨m, hm, hval⟩ := List.mem_map.1 (e ▸ minList_mem x xs)
  rw [← hval]
  cases hgm : Map.get m X with
  | none => rw [Option.getD_none, pack_zero, forgive_of_lt F X hX]; exact Nat.le_refl _
  | some v => exact forgive_le F v (hg m hm X v hgm).2.1 (hg m hm X v hgm).2.2

/-- **The key step.**  After an accepted operation stamped `t'`, a stamp `t ≥ t'` of the same
origin that was not before the cut-off still is not: either no per-source maximum moved, and the
cut-off is recomputed to what it was, or one moved to `t'`, and the cut-off is at most `t'`. -/
theorem notBefore_after (F : Nat) (s : OrSwot) (src t' t : Nat)
    (he : SafeExact F s) (hg : GoodMaxs s) (ht' : ValidStamp t') (hle : t' ≤ t)
    (hnb : isBefore s.safe t = false) : isBefore (bumped F s src t').safe t = false := by
  rw [isBefore_eq_false_iff] at hnb ⊢
  intro v hv
  rcases foldl_computeSafe_cases F (bumped F s src t').maxs [node t'] s.safe (node t) with
    ⟨x, xs, hnode, e, e2⟩ | ⟨_, e2⟩
  · cases (e2.symm.trans hv : some _ = some v)
    have hnode := List.mem_singleton.1 hnode
    rw [hnode] at hnb e
    rcases srcVals_bumped s.maxs src t' with hval | hsame
    · exact Nat.le_trans (forgive_min_le F (goodMaxs_bumped F s src t' hg ht') (node_lt t') e t' hval) hle
    · replace e := hsame.symm.trans e
      cases hsafe : Map.get s.safe (node t') with
      | some w =>
        obtain ⟨x', xs', e', rfl⟩ := he.some_ _ w hsafe
        cases e.symm.trans e'
        exact hnb _ hsafe
      | none =>
        obtain ⟨m, hm, e'⟩ := List.mem_map.1 (e ▸ minList_mem x xs)
        rw [he.none_ _ hsafe m hm, Option.getD_none] at e'
        rw [← e', ← hnode]
        exact Nat.le_of_not_lt (not_lt_forgive_default F t)
  · exact hnb v (e2 ▸ hv)

theorem goodMaxs_congr (s s' : OrSwot) (hm : s'.maxs = s.maxs) (h : GoodMaxs s) : GoodMaxs s' :=
  fun m hmem => h m (hm ▸ hmem)

theorem safeExact_applyOp (F : Nat) (s : OrSwot) (o : SrcOp) (he : SafeExact F s) (hg : GoodMaxs s)
    (hv : ValidStamp o.op.ts) : SafeExact F (applyOp F s o).1 ∧ GoodMaxs (applyOp F s o).1 := by
  cases hb : isBefore s.safe o.op.ts with
  | true => rw [applyOp_refused F s o hb]; exact ⟨he, hg⟩
  | false =>
    obtain ⟨h1, h2⟩ := applyOp_bumped F s o hb
    exact ⟨safeExact_congr F _ _ h1 h2 (safeExact_bumped F s o.src o.op.ts he),
           goodMaxs_congr _ _ h1 (goodMaxs_bumped F s o.src o.op.ts hg hv)⟩

theorem safeExact_applyAll (F : Nat) : ∀ (ops : List SrcOp) (s : OrSwot), SafeExact F s → GoodMaxs s →
    (∀ o ∈ ops, ValidStamp o.op.ts) → SafeExact F (applyAll F s ops) ∧ GoodMaxs (applyAll F s ops) :=
  fun ops _ he hg hv => List.foldlRecOn (motive := fun s => SafeExact F s ∧ GoodMaxs s) ops _ ⟨he, hg⟩
    fun s h o ho => safeExact_applyOp F s o h.1 h.2 (hv o ho)

theorem safeExact_purge (F : Nat) (s : OrSwot) (he : SafeExact F s) : SafeExact F (purgeOldDeletes s).1 :=
  safeExact_congr F s _ rfl rfl he

/-- **accepted_sorted**: operations applied in ascending stamp order, none of which was too old
when the batch started, are all accepted when their turn comes. -/
theorem accepted_sorted (F : Nat) : ∀ (ops : List SrcOp) (s : OrSwot), SafeExact F s → GoodMaxs s →
    ops.Pairwise (fun a b => a.op.ts ≤ b.op.ts) →
    (∀ o ∈ ops, ValidStamp o.op.ts ∧ isBefore s.safe o.op.ts = false) → C04.Accepted F s ops := by
  intro ops
  induction ops with
  | nil => intro _ _ _ _ _; trivial
  | cons o rest ih =>
    intro s he hg hsorted hall
    obtain ⟨hvo, hbo⟩ := hall o List.mem_cons_self
    obtain ⟨he', hg'⟩ := safeExact_applyOp F s o he hg hvo
    rw [List.pairwise_cons] at hsorted
    refine ⟨hbo, ih _ he' hg' hsorted.2 fun o' ho' => ?_⟩
    obtain ⟨hvo', hbo'⟩ := hall o' (List.mem_cons_of_mem _ ho')
    rw [(applyOp_bumped F s o hbo).2]
    exact ⟨hvo', notBefore_after F s o.src o.op.ts o'.op.ts he hg hvo (hsorted.1 o' ho') hbo'⟩

theorem notBefore_quiet (F : Nat) (s : OrSwot) (j t : Nat) (he : SafeExact F s) (hg : GoodMaxs s)
    (m : Map) (hm : s.maxs[j]? = some m) (hq : ∀ v, Map.get m (node t) = some v → v ≤ t) :
    isBefore s.safe t = false := by
  rw [isBefore_eq_false_iff]
  intro v hs
  obtain ⟨x, xs, e, rfl⟩ := he.some_ _ v hs
  refine Nat.le_trans (forgive_min_le F hg (node_lt t) e _ (List.mem_map.2 ⟨m, List.mem_of_getElem? hm, rfl⟩)) ?_
  cases hgm : Map.get m (node t) with
  | some w => exact hq w hgm
  | none => rw [Option.getD_none, pack_zero]; exact node_le t

theorem accepted_quiet (F : Nat) (j : Nat) (ops : List SrcOp) (s : OrSwot) (m : Map)
    (he : SafeExact F s) (hg : GoodMaxs s) (hm : s.maxs[j]? = some m)
    (hall : ∀ o ∈ ops, o.src ≠ j ∧ ValidStamp o.op.ts ∧ ∀ v, Map.get m (node o.op.ts) = some v → v ≤ o.op.ts) :
    C04.Accepted F s ops := by
  induction ops generalizing s with
  | nil => trivial
  | cons o rest ih =>
    obtain ⟨hsrc, hv, hq⟩ := hall o List.mem_cons_self
    refine ⟨notBefore_quiet F s j o.op.ts he hg m hm hq, ?_⟩
    obtain ⟨he', hg'⟩ := safeExact_applyOp F s o he hg hv
    exact ih _ he' hg' ((applyOp_maxs_other F s o j fun h => hsrc h.symm).trans hm)
      fun o' ho' => hall o' (List.mem_cons_of_mem _ ho')

end Datacake.OrSwot
