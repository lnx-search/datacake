/- Per-key characterisation of `OrSwot.merge`.  `mproj` projects the state of the log loop at a key,
`mstepKey` is what one log item does to that projection (`mergeStep_spec`), `lstepKey` what the
left-over loop does to a cell (`leftoverStep_spec`); `mergeKey` composes them, and `merge_get` says
that `merge` computes `mergeKey` at every key. -/
import Datacake.Lemmas.Orswot

namespace Datacake.OrSwot
open Datacake.Lww Datacake.Map Datacake.Ts

theorem sortLog_perm (l : List LogItem) : (sortLog l).Perm l :=
  insSort_perm (·.ts < ·.ts) insertSorted (fun _ => rfl) (fun _ _ _ => rfl) l

def mproj (st : MergeSt) (k : Nat) : Option Nat × Option Nat × Option Nat :=
  (Map.get st.s.entries k, Map.get st.s.dead k, Map.get st.old k)

/-- What one log item does to its own key. -/
def mstepKey (safe : Map) (it : LogItem) (r : Option Nat × Option Nat × Option Nat) :
    Option Nat × Option Nat × Option Nat :=
  let (e, d, o) := r
  if it.isDelete && isBefore safe it.ts then r
  else if it.isDelete then
    match e with
    | some ev =>
      if it.ts < ev then r
      else (none, some (match d with | some v => max v it.ts | none => it.ts), o)
    | none => (none, some (match d with | some v => max v it.ts | none => it.ts), o)
  else
    let timestamp := match o with | some ov => max it.ts ov | none => it.ts
    match d with
    | some dv => if timestamp < dv then (e, d, none) else (some timestamp, none, none)
    | none => (some timestamp, none, none)

theorem mergeStep_spec (st : MergeSt) (it : LogItem) :
    (mergeStep st it).s.safe = st.s.safe ∧ (mergeStep st it).s.maxs = st.s.maxs ∧
    mproj (mergeStep st it) it.key = mstepKey st.s.safe it (mproj st it.key) ∧
    ∀ k, k ≠ it.key → mproj (mergeStep st it) k = mproj st k := by
  unfold mergeStep mstepKey mproj
  dsimp only
  cases it.isDelete
  · simp only [Bool.false_and, Bool.false_eq_true, if_false]
    cases ho : Map.get st.old it.key <;> cases hd : Map.get st.s.dead it.key <;> dsimp only <;>
      (try split) <;>
      exact ⟨rfl, rfl, by simp only [get_set, get_erase, ho, hd, if_true],
        fun k hk => by simp only [get_set, get_erase, if_neg hk]⟩
  · simp only [Bool.true_and, if_true]
    cases isBefore st.s.safe it.ts
    · simp only [Bool.false_eq_true, if_false]
      cases he : Map.get st.s.entries it.key <;> dsimp only
      · exact ⟨rfl, rfl, by simp only [get_set, he, if_true]; rfl,
          fun k hk => by simp only [get_set, if_neg hk]⟩
      · split <;>
          exact ⟨rfl, rfl, by simp only [get_set, get_erase, he, if_true] <;> rfl,
            fun k hk => by simp only [get_set, get_erase, if_neg hk]⟩
    · exact ⟨rfl, rfl, rfl, fun _ _ => rfl⟩

/-- What the left-over loop does to the key of a remaining old entry `(k, e)`. -/
def lstepKey (remoteSafe : Map) (e : Nat) (r : Option Nat × Option Nat) : Option Nat × Option Nat :=
  if isBefore remoteSafe e then r
  else match r.2 with
    | some dv => if e < dv then r else (some e, none)
    | none => (some e, none)

theorem leftoverStep_spec (remoteSafe : Map) (s : OrSwot) (p : Nat × Nat) :
    (leftoverStep remoteSafe s p).safe = s.safe ∧ (leftoverStep remoteSafe s p).maxs = s.maxs ∧
    cell (leftoverStep remoteSafe s p) p.1 = lstepKey remoteSafe p.2 (cell s p.1) ∧
    ∀ k, k ≠ p.1 → cell (leftoverStep remoteSafe s p) k = cell s k := by
  unfold leftoverStep lstepKey cell
  cases isBefore remoteSafe p.2
  · simp only [Bool.false_eq_true, if_false]
    cases hd : Map.get s.dead p.1 <;> dsimp only <;> (try split) <;>
      exact ⟨rfl, rfl, by simp only [get_set, get_erase, hd, if_true],
        fun k hk => by simp only [get_set, get_erase, if_neg hk]⟩
  · exact ⟨rfl, rfl, rfl, fun _ _ => rfl⟩

/-- The pure per-key function computed by `merge`: from what the two sets hold for a key (and the
two cut-off maps) to what the merged set holds for it. -/
def mergeKey (aSafe bSafe : Map) (ae ad be bd : Option Nat) : Option Nat × Option Nat :=
  let r0 : Option Nat × Option Nat × Option Nat := (none, ad, ae)
  let r1 := match be, bd with
    | some t, _ => mstepKey aSafe ⟨0, t, false⟩ r0
    | none, some d => mstepKey aSafe ⟨0, d, true⟩ r0
    | none, none => r0
  match r1.2.2 with
  | some e => lstepKey bSafe e (r1.1, r1.2.1)
  | none => (r1.1, r1.2.1)

theorem mstepKey_key (safe : Map) (it : LogItem) (r) :
    mstepKey safe it r = mstepKey safe ⟨0, it.ts, it.isDelete⟩ r := rfl

theorem mergeVersions_fields (F : Nat) (s : OrSwot) (other : List Map) :
    ({ s with maxs := (mergeVersions F s.maxs s.safe other).1,
              safe := (mergeVersions F s.maxs s.safe other).2 } : OrSwot).entries = s.entries := rfl


def mergeLog (b : OrSwot) : List LogItem :=
  b.entries.bindings.map (fun p => ⟨p.1, p.2, false⟩) ++ b.dead.bindings.map (fun p => ⟨p.1, p.2, true⟩)

def mergeLoop (a b : OrSwot) : MergeSt :=
  (sortLog (mergeLog b)).foldl mergeStep { s := { a with entries := [] }, old := a.entries }

def mergeSets (a b : OrSwot) : OrSwot :=
  (mergeLoop a b).old.bindings.foldl (leftoverStep b.safe) (mergeLoop a b).s

theorem merge_eq (F : Nat) (a b : OrSwot) : merge F a b =
    { mergeSets a b with
      maxs := (mergeVersions F (mergeSets a b).maxs (mergeSets a b).safe b.maxs).1
      safe := (mergeVersions F (mergeSets a b).maxs (mergeSets a b).safe b.maxs).2 } := by
  rw [merge, mergeSets, mergeLoop, mergeLog]

theorem mergeSets_versions (a b : OrSwot) :
    (mergeSets a b).safe = a.safe ∧ (mergeSets a b).maxs = a.maxs :=
  List.foldlRecOn (motive := fun s => s.safe = a.safe ∧ s.maxs = a.maxs) _ (leftoverStep b.safe)
    (List.foldlRecOn (motive := fun st => st.s.safe = a.safe ∧ st.s.maxs = a.maxs) _ mergeStep ⟨rfl, rfl⟩
      fun st h it _ => ⟨(mergeStep_spec st it).1.trans h.1, (mergeStep_spec st it).2.1.trans h.2⟩)
    fun s h p _ => ⟨(leftoverStep_spec b.safe s p).1.trans h.1, (leftoverStep_spec b.safe s p).2.1.trans h.2⟩

theorem merge_versions (F : Nat) (a b : OrSwot) :
    (merge F a b).maxs = (mergeVersions F a.maxs a.safe b.maxs).1 ∧
    (merge F a b).safe = (mergeVersions F a.maxs a.safe b.maxs).2 := by
  rw [merge_eq, (mergeSets_versions a b).1, (mergeSets_versions a b).2]
  exact ⟨rfl, rfl⟩

theorem mem_mergeLog (b : OrSwot) (it : LogItem) :
    it ∈ mergeLog b ↔ Map.get (if it.isDelete then b.dead else b.entries) it.key = some it.ts := by
  obtain ⟨k, t, del⟩ := it
  cases del <;>
    simp [mergeLog, mem_bindings]

theorem mergeLog_nodup (b : OrSwot) (hb : Disj b) : ((mergeLog b).map LogItem.key).Nodup := by
  simp only [mergeLog, List.map_append, List.map_map]
  refine List.nodup_append.2 ⟨bindings_nodup _, bindings_nodup _, ?_⟩
  intro x hx y hy hxy
  obtain ⟨⟨k1, v1⟩, h1, rfl⟩ := List.mem_map.1 hx
  obtain ⟨⟨k2, v2⟩, h2, rfl⟩ := List.mem_map.1 hy
  obtain rfl : k1 = k2 := hxy
  exact nomatch (mem_bindings.1 h1).symm.trans (hb.entries_none (mem_bindings.1 h2))

/-- **merge_get**: per key, `merge` computes `mergeKey` (the other set being consistent, so that a
key occurs at most once in the time-sorted log). -/
theorem merge_get (F : Nat) (a b : OrSwot) (hb : Disj b) (k : Nat) :
    (Map.get (merge F a b).entries k, Map.get (merge F a b).dead k) =
      mergeKey a.safe b.safe (Map.get a.entries k) (Map.get a.dead k)
        (Map.get b.entries k) (Map.get b.dead k) := by
  -- through `merge_eq` and `rw`: a `rfl` or `show` across `merge` makes the elaborator unfold its loops
  have hfinal : (Map.get (merge F a b).entries k, Map.get (merge F a b).dead k) =
      cell (mergeSets a b) k := by rw [merge_eq, cell]
  rw [hfinal]
  have hperm := sortLog_perm (mergeLog b)
  have hmem : ∀ it, it ∈ sortLog (mergeLog b) ↔
      Map.get (if it.isDelete then b.dead else b.entries) it.key = some it.ts :=
    fun it => hperm.mem_iff.trans (mem_mergeLog b it)
  -- first loop: the item of `k`, if any, acts on `(none, a.dead k, a.entries k)`
  obtain ⟨_, hno1, hyes1⟩ := foldl_keylocal mproj LogItem.key mergeStep (mstepKey a.safe)
    (fun st => st.s.safe = a.safe)
    (fun st it h => (mergeStep_spec st it).1.trans h)
    (fun st it k h => by
      by_cases hk : k = it.key
      · rw [if_pos hk, hk, ← h]; exact (mergeStep_spec st it).2.2.1
      · rw [if_neg hk]; exact (mergeStep_spec st it).2.2.2 k hk)
    (sortLog (mergeLog b)) ((hperm.map _).nodup_iff.2 (mergeLog_nodup b hb))
    { s := { a with entries := [] }, old := a.entries } rfl k
  have hst1 : mproj (mergeLoop a b) k =
      (match Map.get b.entries k, Map.get b.dead k with
        | some t, _ => mstepKey a.safe ⟨0, t, false⟩ (none, Map.get a.dead k, Map.get a.entries k)
        | none, some d => mstepKey a.safe ⟨0, d, true⟩ (none, Map.get a.dead k, Map.get a.entries k)
        | none, none => (none, Map.get a.dead k, Map.get a.entries k)) := by
    cases hbe : Map.get b.entries k with
    | some t => exact (hyes1 ⟨k, t, false⟩ ((hmem _).2 hbe) rfl).trans (mstepKey_key _ _ _)
    | none =>
      cases hbd : Map.get b.dead k with
      | some d => exact (hyes1 ⟨k, d, true⟩ ((hmem _).2 hbd) rfl).trans (mstepKey_key _ _ _)
      | none =>
        refine hno1 fun it hit hik => ?_
        have := (hmem it).1 hit
        rw [hik] at this
        split at this <;> simp only [hbe, hbd, reduceCtorEq] at this
  -- second loop: the old entry of `k`, if it is still there
  obtain ⟨_, hno2, hyes2⟩ := foldl_keylocal cell Prod.fst (leftoverStep b.safe)
    (fun p => lstepKey b.safe p.2) (fun _ => True) (fun _ _ _ => trivial)
    (fun s p k _ => by
      by_cases hk : k = p.1
      · rw [if_pos hk, hk]; exact (leftoverStep_spec b.safe s p).2.2.1
      · rw [if_neg hk]; exact (leftoverStep_spec b.safe s p).2.2.2 k hk)
    (mergeLoop a b).old.bindings (bindings_nodup _) (mergeLoop a b).s trivial k
  unfold mergeKey mergeSets
  simp only
  rw [← hst1]
  generalize mergeLoop a b = st at hno2 hyes2 ⊢
  dsimp only [mproj]
  cases hold : Map.get st.old k with
  | some e => exact hyes2 (k, e) (mem_bindings.2 hold) rfl
  | none =>
    refine hno2 fun p hp hpk => ?_
    have := mem_bindings.1 hp
    rw [hpk, hold] at this; cases this

end Datacake.OrSwot
